-- root of the library: every module (model, specs, crypto references, generated facts, property theorems)
import Cose.Bytes
import Cose.Crypto.Sha2
import Cose.Crypto.Aes
import Cose.Crypto.Gcm
import Cose.Crypto.ChaCha20Poly1305
import Cose.Crypto.Weierstrass
import Cose.Crypto.Ed25519
import Cose.Crypto.X25519
import Cose.Gen.Iana
import Cose.Gen.Tables
import Cose.Gen.Layouts
import Cose.Gen.Footprints
import Cose.Gen.PanicSites
import Cose.Go.Val
import Cose.Go.Res
import Cose.Go.CoseMap
import Cose.Go.ByteStr
import Cose.Props.C18
import Cose.Props.C20
import Cose.Props.C08
import Cose.Props.C11
import Cose.Props.C12
import Cose.Props.C13
import Cose.Props.C01
import Cose.Props.C01Enc
import Cose.Props.Lists
import Cose.Props.C01Sign
import Cose.Props.C01Mac
import Cose.Props.C01EncR
import Cose.Props.C01Forms
import Cose.Props.C01Prot
import Cose.Props.KdfRoundtrip
import Cose.Props.C09Sign
import Cose.Props.C09All
import Cose.Props.Authd
import Cose.Props.C05Sign
import Cose.Props.KeySetRoundtrip
import Cose.Props.KeyTextForms
import Cose.Props.C05Shape
import Cose.Props.C18Shape
import Cose.Props.C06Shape
import Cose.Props.PrimShapeMac
import Cose.Props.PrimShapeAead
import Cose.Props.PrimShapeKdf
import Cose.Props.PrimShapeEcdh
import Cose.Props.ClaimsRoundtrip
import Cose.Props.ClaimsForms
import Cose.Props.SignOrder
import Cose.Props.C08Wire
import Cose.Props.C02
import Cose.Props.C03
import Cose.Props.C04
import Cose.Props.C05
import Cose.Props.C06
import Cose.Props.C09
import Cose.Props.C10
import Cose.Props.C14
import Cose.Props.C15
import Cose.Props.C16
import Cose.Props.C17
import Cose.Props.C19
import Cose.Props.C07
import Cose.Props.History
import Cose.Props.CwtEndToEnd
