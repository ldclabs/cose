/-!
# Interleaving semantics over a shared store

Each call of a shared object is an operation `run : S → In → Out × S` on the shared state `S` (the fields of
the implementation object, the key it references, the registry).  A *schedule* is any interleaving of the calls
made by any number of goroutines, i.e. any list of (operation, input) executed one after the other on the shared
state.  Operations are atomic at this level: what happens *inside* one call when another goroutine runs is what the
footprint obligation of `Props/C19.lean` excludes (no shared writes, so no other call can observe an intermediate
state).  `schedule_independent`: a schedule of operations that do not write the shared state gives each call the result
it has when run alone.
-/
namespace Cose.Conc

structure Op (S In Out : Type) where
  run : S → In → Out × S

def Op.ReadOnly {S In Out} (o : Op S In Out) : Prop := ∀ s i, (o.run s i).2 = s

def runSchedule {S In Out} : S → List (Op S In Out × In) → List Out × S
  | s, [] => ([], s)
  | s, (o, i) :: rest =>
    let (r, s') := o.run s i
    let (rs, sf) := runSchedule s' rest
    (r :: rs, sf)

/-- **schedule independence**: if no operation of the schedule writes the shared state, each call returns what it
    returns when run alone on the initial state, and the final shared state is the initial one -/
theorem schedule_independent {S In Out} (s0 : S) (sched : List (Op S In Out × In))
    (h : ∀ p ∈ sched, p.1.ReadOnly) :
    runSchedule s0 sched = (sched.map (fun p => (p.1.run s0 p.2).1), s0) := by
  induction sched with
  | nil => rfl
  | cons p rest ih =>
    have e : (p.1.run s0 p.2).2 = s0 := h p List.mem_cons_self s0 p.2
    show ((p.1.run s0 p.2).1 :: (runSchedule (p.1.run s0 p.2).2 rest).1, (runSchedule (p.1.run s0 p.2).2 rest).2) = _
    rw [e, ih (fun q hq => h q (List.mem_cons_of_mem _ hq))]
    rfl

/-- only this much agreement: the result that a call `p` made in both schedules has when run alone on the initial state
    is a member of the result list of each; positions are not related (`schedule_independent` gives them) -/
theorem interleavings_agree {S In Out} (s0 : S) (a b : List (Op S In Out × In))
    (ha : ∀ p ∈ a, p.1.ReadOnly) (hb : ∀ p ∈ b, p.1.ReadOnly) (p : Op S In Out × In) (hpa : p ∈ a) (hpb : p ∈ b) :
    (p.1.run s0 p.2).1 ∈ (runSchedule s0 a).1 ∧ (p.1.run s0 p.2).1 ∈ (runSchedule s0 b).1 := by
  rw [schedule_independent s0 a ha, schedule_independent s0 b hb]
  exact ⟨List.mem_map.mpr ⟨p, hpa, rfl⟩, List.mem_map.mpr ⟨p, hpb, rfl⟩⟩

/-- whether two accesses to the same object conflict, `w1` and `w2` saying whether each of them writes: a conflict
    (write/read or write/write) needs a write -/
def conflicts (w1 w2 : Bool) : Bool := w1 || w2

theorem no_conflict_without_writes : conflicts false false = false := rfl

end Cose.Conc
