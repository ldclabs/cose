import Cose.Go.Roundtrip
import Cose.Cwt.Validator
import Cose.Gen.Iana
/-!
# What `ValidateMap` sees of a claims map, and its invariance under the CBOR round trip

`claimsView` is the five claims the validator reads, each through `Has` and `GetUint64` / `GetString`.  The verdict is
the same for a map and its decoded encoding (`claimsView_roundtrip`, `validateMap_roundtrip`), for the entries in another
order (`validateMap_order_independent`) and with an entry under another label added (`validateMap_ignores_other_claims`).
-/
namespace Cose.Cwt
open Cose.Go Cose.Spec.Rfc8392

/-- `Has` + `GetUint64` on a time claim -/
def timeView : Option GoVal → TimeClaim
  | none => .absent
  | some v => match getUint64 (some v) with
    | .ok n => .secs n.toNat
    | _ => .invalid

/-- `Has` + `GetString` on a text claim -/
def textView : Option GoVal → TextClaim
  | none => .absent
  | some v => match getString (some v) with
    | .ok s => .text (String.fromUTF8! (ByteArray.mk s.toArray))
    | _ => .invalid

def lblC (i : Int) : Label := .int i

/-- the claims `ValidateMap` looks at -/
def claimsView (m : CMap) : Claims :=
  { exp := timeView (m.lookup (lblC Cose.Gen.Iana.CWTClaimExp))
    nbf := timeView (m.lookup (lblC Cose.Gen.Iana.CWTClaimNbf))
    iat := timeView (m.lookup (lblC Cose.Gen.Iana.CWTClaimIat))
    iss := textView (m.lookup (lblC Cose.Gen.Iana.CWTClaimIss))
    aud := textView (m.lookup (lblC Cose.Gen.Iana.CWTClaimAud)) }

theorem getUint64_int (k : IntKind) (v : Int) (h : k.signed = false → 0 ≤ v) :
    getUint64 (some (.int k v)) = if v ≥ 0 then .ok v else .err "range" := by
  show (if k.signed = true then _ else _) = _
  cases hs : k.signed with
  | true => rfl
  | false => rw [if_neg Bool.false_ne_true, if_pos (h hs)]

theorem getUint64_normInt (k : IntKind) (v : Int) (hk : k.signed = false → 0 ≤ v) :
    getUint64 (some (normInt v)) = getUint64 (some (.int k v)) := by
  obtain ⟨k', e, hk'⟩ := normInt_kind v
  rw [e, getUint64_int k v hk, getUint64_int k' v hk']

theorem getUint64_normV {v : GoVal} (h : Flat v) : getUint64 (some (normV v)) = getUint64 (some v) := by
  cases h with
  | scalar v hs =>
    cases hs with
    | int k v h hk => exact getUint64_normInt k v hk
    | _ => rfl
  | _ => rfl

theorem views_normV {o : Option GoVal} (h : ∀ v, o = some v → Flat v) :
    timeView (o.map normV) = timeView o ∧ textView (o.map normV) = textView o := by
  cases o with
  | none => exact ⟨rfl, rfl⟩
  | some v => simp only [Option.map_some, timeView, textView, getUint64_normV (h v rfl), getString_normV, and_self]

/-- **the validator cannot tell a decoded claims map from the original**: if every look-up in `m'` is the decoded form of
    the look-up in `m` (what `cmap_roundtrip` provides), `ValidateMap` sees the same claims (`hnd` is not used) -/
theorem claimsView_roundtrip (m m' : CMap) (hok : ∀ kv ∈ m, EntryOk kv) (hnd : (m.map (·.1)).Nodup)
    (hl : ∀ l, m'.lookup l = (m.lookup l).map normV) : claimsView m' = claimsView m := by
  have hv := fun l => views_normV (o := m.lookup l) fun _ => flat_of_lookup hok
  unfold claimsView
  rw [hl, hl, hl, hl, hl, (hv _).1, (hv _).1, (hv _).1, (hv _).2, (hv _).2]

theorem validateMap_roundtrip (o : VOpts) (m m' : CMap) (hok : ∀ kv ∈ m, EntryOk kv) (hnd : (m.map (·.1)).Nodup)
    (hl : ∀ l, m'.lookup l = (m.lookup l).map normV) :
    validateMap o (claimsView m') = validateMap o (claimsView m) :=
  congrArg (validateMap o) (claimsView_roundtrip m m' hok hnd hl)

/-- **the verdict does not depend on the order in which the map presents its claims**: a permutation of a map with
    pairwise distinct labels (Go's map iteration order) is validated like the map -/
theorem validateMap_order_independent (o : VOpts) (m m' : CMap) (hp : m'.Perm m) (hnd : (m.map (·.1)).Nodup) :
    validateMap o (claimsView m') = validateMap o (claimsView m) := by
  have hl : ∀ l, m'.lookup l = m.lookup l := fun l => lookup_perm hp hnd l
  unfold claimsView
  simp only [hl]

/-- **an entry under another label does not change the verdict**: one entry appended under any label other than the five
    that `claimsView` reads -/
theorem validateMap_ignores_other_claims (o : VOpts) (m : CMap) (l : Label) (v : GoVal)
    (hl : l ≠ lblC Cose.Gen.Iana.CWTClaimExp ∧ l ≠ lblC Cose.Gen.Iana.CWTClaimNbf ∧ l ≠ lblC Cose.Gen.Iana.CWTClaimIat ∧
      l ≠ lblC Cose.Gen.Iana.CWTClaimIss ∧ l ≠ lblC Cose.Gen.Iana.CWTClaimAud) :
    validateMap o (claimsView (m ++ [(l, v)])) = validateMap o (claimsView m) := by
  have key : ∀ l', l ≠ l' → (m ++ [(l, v)]).lookup l' = m.lookup l' := fun l' hne => by
    rw [lookup_append, lookup_cons_ne hne]; cases m.lookup l' <;> rfl
  unfold claimsView
  rw [key _ hl.1, key _ hl.2.1, key _ hl.2.2.1, key _ hl.2.2.2.1, key _ hl.2.2.2.2]

end Cose.Cwt
