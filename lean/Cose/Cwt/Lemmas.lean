import Cose.Cwt.Validator
/-!
# Go's `time.Time` arithmetic on the range the validator uses

`NowInRange` (seconds within ±2⁶² of year 1) is what makes `Add` exact (`add_exact`: no int64 wrap, no saturation); on
well-formed times `After` is the comparison of nanosecond counts (`after_iff`); `toTime` is exact up to `maxRepresentable`
and the zero time beyond (`toTime_small`, `toTime_large`): the guard that `toTime` reads from the generated table is `>`
with the rule's bound as its constant (`cmpOf_toTime`, `maxRep`).
-/
namespace Cose.Cwt
open GoTime Cose.Spec.Rfc8392

theorem wrap64_id {x : Int} (h1 : -9223372036854775808 ≤ x) (h2 : x < 9223372036854775808) : wrap64 x = x := by
  unfold wrap64 two63 two64; omega

theorem cmpOf_toTime : cmpOf "cwt.toTime" "u" = some (">", 9223371974719179007) := by decide +kernel

theorem maxRep : maxRepresentable = 9223371974719179007 := by decide

theorem toTimeGuard_eq (u : Nat) : toTimeGuard u = decide (u > maxRepresentable) := by
  -- `rw`, not `unfold` or `simp only`: those reduce the `match` by evaluating the table look-up once more
  rw [toTimeGuard, cmpOf_toTime, maxRep]
  exact decide_eq_decide.mpr (by omega)

theorem maxSkewMinutes_eq : maxSkewMinutes = 10 := by decide +kernel

theorem toTime_small {u : Nat} (h : u ≤ maxRepresentable) : toTime u = ⟨(u : Int) + unixToInternal, 0⟩ := by
  rw [toTime, toTimeGuard_eq, decide_eq_false (Nat.not_lt.mpr h), if_neg Bool.false_ne_true]
  rw [maxRep] at h
  unfold GoTime.unix unixToInternal
  rw [wrap64_id (x := (u : Int)) (by omega) (by omega), wrap64_id (by omega) (by omega)]

theorem toTime_large {u : Nat} (h : u > maxRepresentable) : toTime u = GoTime.zero := by
  rw [toTime, toTimeGuard_eq, decide_eq_true h, if_pos rfl]

/-- `now` within ±2^62 seconds of year 1: adding an int64 duration to it does not saturate (`add_exact`) -/
def NowInRange (t : GoTime) : Prop := -4611686018427387904 < t.sec ∧ t.sec < 4611686018427387904

theorem addSec_exact {ext d : Int} (h1 : -4611686018427387904 < ext) (h2 : ext < 4611686018427387904)
    (h3 : -4611686018427387904 ≤ d) (h4 : d ≤ 4611686018427387904) : addSec ext d = ext + d := by
  unfold addSec
  simp only
  rw [wrap64_id (by omega) (by omega)]
  by_cases hd : d > 0
  · have : ext + d > ext := by omega
    simp [hd, this]
  · have : ¬ (ext + d > ext) := by omega
    simp [hd, this]

theorem goDiv_goMod (d : Int) :
    d = nsPerSec * goDiv d nsPerSec + goMod d nsPerSec ∧ -nsPerSec < goMod d nsPerSec ∧ goMod d nsPerSec < nsPerSec := by
  unfold goMod goDiv nsPerSec
  split <;> omega

theorem add_exact {t : GoTime} {d : Int} (hr : NowInRange t) (hwf : t.WF)
    (hd1 : -9223372036854775808 ≤ d) (hd2 : d < 9223372036854775808) :
    (t.add d).ns = t.ns + d ∧ (t.add d).WF := by
  obtain ⟨hw1, hw2⟩ := hwf
  obtain ⟨hq, hlo, hhi⟩ := goDiv_goMod d
  unfold GoTime.add GoTime.ns GoTime.WF
  -- only the split `d = 10⁹·q + r` matters from here on
  generalize goDiv d nsPerSec = q at hq ⊢
  generalize goMod d nsPerSec = r at hq hlo hhi ⊢
  unfold nsPerSec at *
  -- with the carry the seconds added are within one of `q`, far from where `addSec` saturates
  have hs : ∀ k, q - 1 ≤ k → k ≤ q + 1 → addSec t.sec k = t.sec + k :=
    fun k _ _ => addSec_exact hr.1 hr.2 (by omega) (by omega)
  clear hd1 hd2 hr
  simp only []
  split
  · simp only [hs (q + 1) (by omega) (by omega)]
    constructor <;> omega
  split
  · simp only [hs (q - 1) (by omega) (by omega)]
    constructor <;> omega
  · simp only [hs q (by omega) (by omega)]
    constructor <;> omega

theorem after_iff {t u : GoTime} (ht : t.WF) (hu : u.WF) : t.after u = decide (t.ns > u.ns) := by
  unfold GoTime.WF nsPerSec at ht hu
  rw [Bool.eq_iff_iff, decide_eq_true_iff]
  simp only [GoTime.after, GoTime.ns, nsPerSec, Bool.or_eq_true, Bool.and_eq_true, decide_eq_true_eq, beq_iff_eq]
  omega

end Cose.Cwt
