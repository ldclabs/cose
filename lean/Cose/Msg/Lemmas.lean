import Cose.Msg.Ops
import Cose.Msg.Roundtrip
import Cose.Go.Roundtrip
/-!
# Headers as they travel

What a reader finds of the nonce choice `Encrypt` made (`selectNonce_after_publish`, `selectNonce_decoded`,
`produceEnc_wire`), of a caller's protected map (`supplied_bucket`) and of an unprotected bucket listed in any order
(`hdr_any_order`).  The round-trip theorems of
`Props/C01*` are assembled from these, from `Msg/Ops.lean` and from the per-kind decode lemmas (`Msg/Roundtrip.lean`).
-/
namespace Cose.Msg
open Cose.Cbor Cose.Go Cose.Gen

/-- `rnd ≠ []`: an empty IV published in header 5 would make `Decrypt` draw a nonce again -/
theorem selectNonce_after_publish {u : CMap} {key : KeyView} {n : Nat} {rnd : Bytes} (hr : rnd ≠ [])
    (h : selectNonce u key n = .ok .random) :
    selectNonce (u.set (lbl Iana.HeaderParameterIV) (.bytes rnd)) key n = .ok (.given rnd) := by
  obtain ⟨iv, piv, hi, hp, h⟩ := selectNonce_ok h
  have hi' : getBytes ((u.set (lbl Iana.HeaderParameterIV) (.bytes rnd)).lookup (lbl Iana.HeaderParameterIV)) =
      .ok (some rnd) := by rw [lookup_set, if_pos rfl]; rfl
  have hp' : getBytes ((u.set (lbl Iana.HeaderParameterIV) (.bytes rnd)).lookup (lbl Iana.HeaderParameterPartialIV)) =
      .ok piv := by rw [lookup_set, if_neg (by decide)]; exact hp
  rw [selectNonce_eq hi' hp', (nonceFor_random h).2]
  cases rnd with
  | nil => exact absurd rfl hr
  | cons a r => rfl

/-- a decoded unprotected map selects the nonce the produced one did, unless a nil `[]byte` sat under IV / Partial IV
    (it travels as CBOR null, which `GetBytes` does not take for a byte string) -/
theorem selectNonce_decoded {fm uh : CMap} (hl : ∀ l, uh.lookup l = (fm.lookup l).map normV)
    (hiv : fm.lookup (lbl Iana.HeaderParameterIV) ≠ some .bnil)
    (hpiv : fm.lookup (lbl Iana.HeaderParameterPartialIV) ≠ some .bnil) (key : KeyView) (n : Nat) :
    selectNonce uh key n = selectNonce fm key n := by
  have hg : ∀ l, fm.lookup l ≠ some .bnil → getBytes (uh.lookup l) = getBytes (fm.lookup l) :=
    fun l hn => by rw [hl l]; exact getBytes_map_normV hn
  unfold selectNonce; rw [hg _ hiv, hg _ hpiv]

/-- what a successful `Encrypt` did, for the reader of the message: under whichever choice, the nonce `iv` the AEAD sealed
    with is the one `Decrypt` selects from the unprotected map `fm` the message carries -/
theorem produceEnc_wire {m : Msg} {e : Encryptor} {ext : Option Bytes} {rnd : Bytes} {m1 : Msg} {w : Wire}
    (hrnd : rnd ≠ []) (h : produceEnc m e ext rnd = .ok m1) (hw : m1.mm = some w) :
    ∃ prot pb pt iv fm aad ct, fillProtected m.prot e.key = .ok prot ∧ hdrBytes (some prot) = .ok pb ∧
      payloadToWire m.payload = .ok pt ∧ selectNonce fm e.key e.nonceSize = .ok (.given iv) ∧
      tobe m.kind ⟨some pb, some fm, none, none, none, none⟩ none ext = .ok aad ∧
      e.encrypt iv (pt.getD []) aad = .ok ct ∧ w = ⟨some pb, some fm, some ct, none, none, none⟩ := by
  obtain ⟨prot, pb, pt, choice, aad, ct, hfp, hpb, hpt, hsel, htb, henc, rfl⟩ := produceEnc_ok h
  cases hw
  refine ⟨prot, pb, pt, _, _, aad, ct, hfp, hpb, hpt, ?_, htb, henc, rfl⟩
  cases choice with
  | given iv => exact hsel
  | random => exact selectNonce_after_publish hrnd hsel

theorem algMismatch_of_lookup {p p' : CMap} (a : Int) (hok : ∀ kv ∈ p, EntryOk kv)
    (hl : ∀ l, p'.lookup l = (p.lookup l).map normV) : algMismatch p' a = algMismatch p a := by
  unfold algMismatch headerAlg CMap.has
  rw [hl, Option.isSome_map, getInt_map_normV fun _ => flat_of_lookup hok]

theorem supplied_bucket (prot : CMap) (alg : Int)
    (hne : prot ≠ []) (hok : ∀ kv ∈ prot, EntryOk kv) (hnd : (prot.map (·.1)).Nodup) (hlen : prot.length ≤ maxElems) :
    ∃ pb pm, encodeCMap prot = some pb ∧ hdrBytes (some prot) = .ok pb ∧ hdrFromBytes (some pb) = .ok pm ∧
      (∀ l, pm.lookup l = (prot.lookup l).map normV) ∧ algMismatch pm alg = algMismatch prot alg := by
  obtain ⟨pb, pm, henc, hdec, _, hlook⟩ := cmap_roundtrip prot hok hnd hlen
  have hpbytes : hdrBytes (some prot) = .ok pb := by
    cases prot with
    | nil => exact absurd rfl hne
    | cons a r => simp only [hdrBytes, henc]
  have hpm : hdrFromBytes (some pb) = .ok pm := by
    cases pb with
    | nil => exact absurd rfl (encodeCMap_ne_nil henc)
    | cons a r => simpa only [hdrFromBytes] using hdec
  exact ⟨pb, pm, henc, hpbytes, hpm, hlook, algMismatch_of_lookup alg hok hlook⟩

theorem hdr_any_order (fm : CMap) (hok : ∀ kv ∈ fm, EntryOk kv) (hnd : (fm.map (·.1)).Nodup)
    (hlen : fm.length ≤ maxElems) :
    ∃ u' uh, HdrEnc (some fm) u' (some uh) ∧ ∀ l, uh.lookup l = (fm.lookup l).map normV := by
  obtain ⟨c, ps, g, uh, hc, henc, hwf, hdepth, hg, hm, _, hlook⟩ := cmap_item fm hok hnd hlen
  exact ⟨.map ps, uh, ⟨⟨c, hc, henc⟩, hwf, by unfold maxNesting; omega, by simp only [hdrField, untag, hg, hm]⟩, hlook⟩

end Cose.Msg
