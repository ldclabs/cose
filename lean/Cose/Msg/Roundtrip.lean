import Cose.Msg.Model
import Cose.Cbor.RawLemmas
/-!
# Wire round trip of the message codec (used by C01 and C09)

`marshal` emits `tag(n, array)`; every `UnmarshalCBOR` first strips byte prefixes, then decodes.  Whether or not
the prefix matched, the decoded value is the array up to enclosing tags (`untag`), which is what the field
decoding looks at (`tagged_view`).  `marshal_unmarshal` is decode ∘ encode for all six kinds; `auth4_decode`, `enc0_decode`
(here), `mac_decode`, `encR_decode`, `sign_decode` (next to the recipient and signature lists, `Props/C01Mac.lean`,
`Props/C01Sign.lean`) say per kind what the decoder makes of any marshalled wire struct.
-/
namespace Cose.Msg
open Cose.Cbor Cose.Go

theorem untag_arr (xs : List Cbor) : untag (.arr xs) = .arr xs := rfl

/-- `UnmarshalCBOR`'s prefix steps, as regenerated from the source: first the CWT tag `d8 3d`, then the kind's own tag
    head followed by the array head octet, of which only the tag head is dropped -/
theorem stripSteps_eq : ∀ k : Kind,
    ∃ b, stripSteps k = [([0xd8, 0x3d], 2), (head 6 k.tagNum ++ [b], (head 6 k.tagNum).length)]
  | .sign1 => ⟨0x84, by decide +kernel⟩ | .sign => ⟨0x84, by decide +kernel⟩
  | .mac0 => ⟨0x84, by decide +kernel⟩ | .mac => ⟨0x85, by decide +kernel⟩
  | .encrypt0 => ⟨0x83, by decide +kernel⟩ | .encrypt => ⟨0x84, by decide +kernel⟩

theorem cwt_not_prefix (k : Kind) (rest : Bytes) : List.isPrefixOf [0xd8, 0x3d] (head 6 k.tagNum ++ rest) = false := by
  cases k <;> rfl

theorem applyStrip_cons (d p : Bytes) (n : Nat) (steps : List (Bytes × Nat)) :
    applyStrip d ((p, n) :: steps) = applyStrip (if p.isPrefixOf d then d.drop n else d) steps := rfl

theorem applyStrip_skip {d p : Bytes} (h : p.isPrefixOf d = false) (n : Nat) (steps : List (Bytes × Nat)) :
    applyStrip d ((p, n) :: steps) = applyStrip d steps := by
  rw [applyStrip_cons, h]; rfl

/-- the second step drops the tag head only if the array head octet after it is the one the source expects -/
theorem applyStrip_marshalled (k : Kind) (xs : List Cbor) :
    applyStrip (encode (.tag k.tagNum (.arr xs))) (stripSteps k) = encode (.arr xs) ∨
    applyStrip (encode (.tag k.tagNum (.arr xs))) (stripSteps k) = encode (.tag k.tagNum (.arr xs)) := by
  obtain ⟨b, hs⟩ := stripSteps_eq k
  have henc : encode (.tag k.tagNum (.arr xs)) = head 6 k.tagNum ++ encode (.arr xs) := rfl
  rw [hs, henc, applyStrip_skip (cwt_not_prefix k _), applyStrip_cons]
  split
  · left; simp [applyStrip]
  · right; rfl

theorem wf_tagged (k : Kind) {xs : List Cbor} (hwf : WF (.arr xs)) : WF (.tag k.tagNum (.arr xs)) :=
  ⟨by cases k <;> decide +kernel, hwf, by cases k <;> rfl⟩

theorem depth_tagged (t : Nat) (xs : List Cbor) : depth (.tag t (.arr xs)) = depth (.arr xs) := by
  simp only [depth, isTag, Bool.false_eq_true, if_false, Nat.zero_add]

/-- the bare array or the array under the kind's tag: the decoder finds the same array under the tags and the same raw
    members (which the recipients' first-octet dispatch looks at) -/
theorem tagged_view (k : Kind) {xs : List Cbor} (hwf : WF (.arr xs)) (hd : depth (.arr xs) < maxNesting) {d : Bytes}
    (h : d = encode (.arr xs) ∨ d = encode (.tag k.tagNum (.arr xs))) :
    ∃ c, decodeAll d = some c ∧ untag c = .arr xs ∧ rawArrayElems d = some (xs.map encode) := by
  rcases h with rfl | rfl
  · exact ⟨_, decodeAll_encode _ hwf (by omega), rfl, rawArrayElems_encode_arr xs hwf⟩
  · exact ⟨_, decodeAll_encode _ (wf_tagged k hwf) (by rw [depth_tagged]; omega), rfl,
      rawArrayElems_tagged _ (wf_tagged k hwf).1 xs hwf⟩

theorem bytesField_bytesCbor (b : Option Bytes) : bytesField (bytesCbor b) = .ok b := by
  cases b <;> rfl

theorem wf_bytesCbor (b : Option Bytes) (h : ∀ x, b = some x → x.length < two64) : WF (bytesCbor b) := by
  cases b with
  | none => simp [bytesCbor, Cbor.null, WF]
  | some x => simpa [bytesCbor, WF] using h x rfl

theorem depth_bytesCbor (b : Option Bytes) : depth (bytesCbor b) = 0 := by cases b <;> rfl

/-- an unprotected bucket `h` on its way: the item `MarshalCBOR` emits has the octets of the canonical `u'` (a Go map lists
    its entries in any order), which is what a decoder sees and turns into `uh`.  The depth bound is generous: one level
    less would do (the bucket sits one array deep, two inside a COSE_Signature). -/
structure HdrEnc (h : Hdr) (u' : Cbor) (uh : Hdr) : Prop where
  emitted : ∃ u, hdrCbor h = some u ∧ encode u' = encode u
  wf : WF u'
  depth : depth u' + 2 < maxNesting
  field : hdrField u' = .ok uh

theorem hdrEnc_empty : HdrEnc (some []) (.map []) (some []) :=
  ⟨⟨_, rfl, rfl⟩, ⟨by simp [maxElems], trivial, List.Pairwise.nil, rfl⟩, by decide, rfl⟩

/-- `UnmarshalCBOR` on what `MarshalCBOR` emits for `w`.  Every kind's wire array opens with the protected bytes, the
    unprotected bucket and the payload; `tail` is what the kind adds.  The decoder sees the bucket as the canonical `u'`
    (`HdrEnc`): if the array with `u'` in it is decoded to the wire struct `w'`, its protected bucket to `pm` and its payload
    member to `pv`, and (COSE_Mac, COSE_Encrypt) its last member is a non-empty array of items that each pass the
    recipients' first-octet dispatch, that is the message object returned -/
theorem marshal_unmarshal (k : Kind) (mode : PMode) {w w' : Wire} {u' : Cbor} {uh : Hdr} {tail : List Cbor} {pm : CMap}
    {pv : PVal} (hu : HdrEnc w.unprot u' uh) (hp : ∀ x, w.prot = some x → x.length < two64)
    (hy : ∀ x, w.payload = some x → x.length < two64)
    (hwc : ∀ u, hdrCbor w.unprot = some u → wireCbor k w = some (.arr (bytesCbor w.prot :: u :: bytesCbor w.payload :: tail)))
    (hwf : WFList tail) (hd : depthList tail + 1 < maxNesting) (hlen : tail.length ≤ 2)
    (hw : wireOfCbor k (.arr (bytesCbor w.prot :: u' :: bytesCbor w.payload :: tail)) = .ok w')
    (hr : (k == .mac || k == .encrypt) = false ∨ ∃ cs, tail.getLast? = some (.arr cs) ∧ WF (.arr cs) ∧
      (cs.map encode).all recipFirstBytesOk = true ∧ (w'.recips.getD []).isEmpty = false)
    (hpm : hdrFromBytes w'.prot = .ok pm)
    (hpv : if k == .encrypt0 || k == .encrypt then pv = zeroPayload mode
           else payloadFromWire mode w'.payload (zeroPayload mode) = .ok pv) :
    ∃ bytes, marshal k w = some bytes ∧ unmarshal k mode bytes = .ok ⟨k, some pm, w'.unprot, pv, some w'⟩ := by
  obtain ⟨u, hu1, heq⟩ := hu.emitted
  -- the array as emitted has the octets of the array with `u'` in it, which is well-formed and shallow: what a decoder sees
  have henc : encode (.tag k.tagNum (.arr (bytesCbor w.prot :: u :: bytesCbor w.payload :: tail))) =
      encode (.tag k.tagNum (.arr (bytesCbor w.prot :: u' :: bytesCbor w.payload :: tail))) := by
    simp only [encode, encodeList, heq, List.length_cons]
  have hwfx : WF (.arr (bytesCbor w.prot :: u' :: bytesCbor w.payload :: tail)) :=
    ⟨by simp only [List.length_cons, maxElems]; omega, wf_bytesCbor _ hp, hu.wf, wf_bytesCbor _ hy, hwf⟩
  have hdx : depth (.arr (bytesCbor w.prot :: u' :: bytesCbor w.payload :: tail)) < maxNesting := by
    have := hu.depth; simp only [depth, depthList, depth_bytesCbor]; omega
  obtain ⟨c, hc, hcu, hraw⟩ := tagged_view k hwfx hdx (applyStrip_marshalled k _)
  have hwc' : wireOfCbor k c = .ok w' := by unfold wireOfCbor at hw ⊢; rw [hcu]; exact hw
  have hrr : recipientsRawOk k (applyStrip (encode (.tag k.tagNum (.arr (bytesCbor w.prot :: u' :: bytesCbor w.payload :: tail))))
        (stripSteps k)) = true ∧
      ((k == .mac || k == .encrypt) && (w'.recips.getD []).isEmpty) = false := by
    unfold recipientsRawOk
    rcases hr with hk | ⟨cs, hl, hcs, hok, hne⟩
    · rw [hk]; exact ⟨rfl, rfl⟩
    · simp only [hraw, List.getLast?_map, List.getLast?_cons, hl, Option.getD_some, Option.map_some,
        rawArrayElems_encode_arr cs hcs, hok, hne, ite_self, Bool.and_false, and_self]
  refine ⟨_, by rw [marshal, hwc u hu1, Option.map_some], ?_⟩
  unfold unmarshal
  rw [henc, hc]
  simp only [hrr.1, hwc', hrr.2, hpm, Bool.not_true, Bool.false_eq_true, if_false]
  split at hpv <;> rename_i hk
  · rw [if_pos hk, hpv]
  · rw [if_neg hk, hpv]

theorem auth4_decode (k : Kind) (hk : k = .sign1 ∨ k = .mac0) (mode : PMode) (w : Wire) {u' : Cbor} {uh : Hdr}
    (hu : HdrEnc w.unprot u' uh) (hp : ∀ x, w.prot = some x → x.length < two64)
    (hy : ∀ x, w.payload = some x → x.length < two64) (ha : ∀ x, w.auth = some x → x.length < two64)
    {pm : CMap} (hpm : hdrFromBytes w.prot = .ok pm)
    {pv : PVal} (hpv : payloadFromWire mode w.payload (zeroPayload mode) = .ok pv) :
    ∃ bytes, marshal k w = some bytes ∧ unmarshal k mode bytes =
      .ok ⟨k, some pm, uh, pv, some { prot := w.prot, unprot := uh, payload := w.payload, auth := w.auth }⟩ := by
  rcases hk with rfl | rfl <;>
  exact marshal_unmarshal _ mode hu hp hy (tail := [bytesCbor w.auth])
    (w' := { prot := w.prot, unprot := uh, payload := w.payload, auth := w.auth })
    (fun u hu1 => by simp [wireCbor, hu1]) ⟨wf_bytesCbor _ ha, trivial⟩
    (by simp [depthList, depth_bytesCbor, maxNesting]) (by simp)
    (by simp only [wireOfCbor, untag_arr, bytesField_bytesCbor, hu.field]) (.inl rfl) hpm hpv

theorem enc0_decode (mode : PMode) (w : Wire) {u' : Cbor} {uh : Hdr}
    (hu : HdrEnc w.unprot u' uh) (hp : ∀ x, w.prot = some x → x.length < two64)
    (hy : ∀ x, w.payload = some x → x.length < two64) {pm : CMap} (hpm : hdrFromBytes w.prot = .ok pm) :
    ∃ bytes, marshal .encrypt0 w = some bytes ∧ unmarshal .encrypt0 mode bytes =
      .ok ⟨.encrypt0, some pm, uh, zeroPayload mode, some { prot := w.prot, unprot := uh, payload := w.payload }⟩ :=
  marshal_unmarshal .encrypt0 mode hu hp hy (tail := []) (w' := { prot := w.prot, unprot := uh, payload := w.payload })
    (fun u hu1 => by simp [wireCbor, hu1]) trivial (by decide) (by simp)
    (by simp only [wireOfCbor, untag_arr, bytesField_bytesCbor, hu.field]) (.inl rfl) hpm rfl

end Cose.Msg
