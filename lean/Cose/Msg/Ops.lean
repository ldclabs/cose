import Cose.Msg.Model
/-!
# What the operations of the message model do

Inversion lemmas (`produceAuth_ok`, `produceEnc_ok`, `produceSign_ok`: what a successful call computed) and evaluation
lemmas (`verifyAuth_eq`, `decryptEnc_eq`: what a call answers once the intermediate results are known).  The theorems of
`Props/` about these operations start from here instead of unfolding the operation again.  The nonce selection goes
through its decision table: `selectNonce_eq` (once IV and Partial IV are read, `selectNonce` is `nonceFor`),
`selectNonce_ok`, `nonceFor_random`, `nonceFor_given_of_piv`.  (`verify_sound`,
`sign_every_signature_checked` and `decrypt_sound`, the inversions of the consuming side, are end results of C02 / C03.)

The operations are written as cascades of `match … with | .ok a => … | .err e => .err e | .panic s => .panic s`.  An
inversion proof walks down the `.ok` branches: each `split at h <;> try cases h` opens the next `match` in
`h : … = .ok _`, the error and panic branches close by `cases h`, and the equations the successful branches leave in the
context are collected at the end (`‹_›`).  Where a `let (a, b) := …` stands between two matches, a bare `simp only at h`
reduces it so that the next `split` finds its `match`; where `split` would pick a `match` further in (`produceEnc`), the
scrutinee is named by `cases h… : …` instead.
-/
namespace Cose.Msg
open Cose.Cbor Cose.Go Cose.Gen

theorem tobe_congr {w w2 : Wire} (hp : w2.prot = w.prot) (hy : w2.payload = w.payload) (k : Kind) (sp ext : Option Bytes) :
    tobe k w2 sp ext = tobe k w sp ext := by
  unfold tobe; rw [hp, hy]

/-- the scan over the signatures sees the verifier list only through `Verifiers.Lookup`, and the wire struct only through
    its protected bytes and its payload -/
theorem verifySign_go_congr {vs vs' : List Verifier} (hl : ∀ kid, lookupVerifier vs' kid = lookupVerifier vs kid) {w w2 : Wire}
    (hp : w2.prot = w.prot) (hy : w2.payload = w.payload) (ext : Option Bytes) :
    ∀ sigs, verifySign.go vs' ext w2 sigs = verifySign.go vs ext w sigs
  | [] => by simp only [verifySign.go]
  | s :: rest => by simp only [verifySign.go, hl, tobe_congr hp hy, verifySign_go_congr hl hp hy ext rest]

theorem fillProtected_some_ok {p p' : CMap} {key : KeyView} (h : fillProtected (some p) key = .ok p') :
    algMismatch p key.alg = false ∧ p = p' := by
  simp only [fillProtected] at h
  split at h <;> cases h
  exact ⟨Bool.eq_false_iff.mpr ‹_›, rfl⟩

theorem produceAuth_ok {m : Msg} {key : KeyView} {auth : Bytes → Res Bytes} {ext : Option Bytes} {m1 : Msg}
    (h : produceAuth m key auth ext = .ok m1) :
    ∃ prot pb yb tb a, fillProtected m.prot key = .ok prot ∧ hdrBytes (some prot) = .ok pb ∧
      payloadToWire m.payload = .ok yb ∧
      tobe m.kind ⟨some pb, some (fillUnprotected m.unprot key), yb, none, none, none⟩ none ext = .ok tb ∧
      auth tb = .ok a ∧
      m1 = { m with prot := some prot, unprot := some (fillUnprotected m.unprot key),
                    mm := some ⟨some pb, some (fillUnprotected m.unprot key), yb, some a, none, none⟩ } := by
  unfold produceAuth at h
  split at h <;> try cases h
  split at h <;> try cases h
  simp only at h
  split at h <;> try cases h
  split at h <;> cases h
  exact ⟨_, _, _, _, _, ‹_›, ‹_›, ‹_›, ‹_›, ‹_›, rfl⟩

theorem produceAuth_wire {m : Msg} {key : KeyView} {auth : Bytes → Res Bytes} {ext : Option Bytes} {m1 : Msg} {w : Wire}
    (h : produceAuth m key auth ext = .ok m1) (hw : m1.mm = some w) :
    ∃ prot pb a, fillProtected m.prot key = .ok prot ∧ hdrBytes (some prot) = .ok pb ∧
      payloadToWire m.payload = .ok w.payload ∧
      w = ⟨some pb, some (fillUnprotected m.unprot key), w.payload, some a, none, none⟩ := by
  obtain ⟨prot, pb, yb, tb, a, hfp, hpb, hyb, -, -, rfl⟩ := produceAuth_ok h
  cases hw
  exact ⟨prot, pb, a, hfp, hpb, hyb, rfl⟩

theorem produceSign_ok {m : Msg} {signers : List Signer} {ext : Option Bytes} {m1 : Msg}
    (h : produceSign m signers ext = .ok m1) :
    signers.isEmpty = false ∧ ∃ pb yb sigs, hdrBytes (some (m.prot.getD [])) = .ok pb ∧ payloadToWire m.payload = .ok yb ∧
      produceSign.go ext ⟨some pb, some (m.unprot.getD []), yb, none, none, none⟩ signers [] = .ok sigs ∧
      m1 = { m with prot := some (m.prot.getD []), unprot := some (m.unprot.getD []),
                    mm := some ⟨some pb, some (m.unprot.getD []), yb, none, some sigs, none⟩ } := by
  unfold produceSign at h
  split at h <;> try cases h
  simp only at h
  split at h <;> try cases h
  split at h <;> cases h
  exact ⟨Bool.eq_false_iff.mpr ‹_›, _, _, _, ‹_›, ‹_›, ‹_›, rfl⟩

/-- the nonce `Encrypt` seals under and the unprotected map it leaves behind: the caller's, or the drawn one published -/
def nonceUsed (choice : NonceChoice) (rnd : Bytes) (u : CMap) : Bytes × CMap :=
  match choice with
  | .given iv => (iv, u)
  | .random => (rnd, u.set (lbl Iana.HeaderParameterIV) (.bytes rnd))

theorem produceEnc_ok {m : Msg} {e : Encryptor} {ext : Option Bytes} {rnd : Bytes} {m1 : Msg}
    (h : produceEnc m e ext rnd = .ok m1) :
    ∃ prot pb pt choice aad ct, fillProtected m.prot e.key = .ok prot ∧ hdrBytes (some prot) = .ok pb ∧
      payloadToWire m.payload = .ok pt ∧
      selectNonce (fillUnprotected m.unprot e.key) e.key e.nonceSize = .ok choice ∧
      tobe m.kind ⟨some pb, some (nonceUsed choice rnd (fillUnprotected m.unprot e.key)).2, none, none, none, none⟩ none ext = .ok aad ∧
      e.encrypt (nonceUsed choice rnd (fillUnprotected m.unprot e.key)).1 (pt.getD []) aad = .ok ct ∧
      m1 = { m with prot := some prot, unprot := some (nonceUsed choice rnd (fillUnprotected m.unprot e.key)).2,
                    mm := some ⟨some pb, some (nonceUsed choice rnd (fillUnprotected m.unprot e.key)).2, some ct, none, none, none⟩ } := by
  unfold produceEnc at h
  split at h <;> try cases h
  cases hsel : selectNonce (fillUnprotected m.unprot e.key) e.key e.nonceSize <;> simp only [hsel] at h <;> try cases h
  rename_i choice
  cases choice <;> simp only at h <;>
  · split at h <;> try cases h
    split at h <;> try cases h
    split at h <;> cases h
    exact ⟨_, _, _, _, _, _, ‹_›, ‹_›, ‹_›, rfl, ‹_›, ‹_›, rfl⟩

/-- the decision `selectNonce` takes once IV and Partial IV are read from the unprotected map: `ivb`, `pivb` are their
    octets, empty when the member is absent -/
def nonceFor (key : KeyView) (ivSize : Nat) (ivb pivb : Bytes) : Res NonceChoice :=
  if pivb.length > 0 then
    if ivb.length > 0 then .err "iv-and-partial-iv"
    else if pivb.length ≥ ivSize then .err "partial-iv-too-long"
    else match key.baseIV with
      | .ok b =>
        if (b.getD []).isEmpty then .err "base-iv-missing"
        else (match xorIV (b.getD []) pivb ivSize with
          | .ok n => .ok (.given n)
          | .err e => .err e
          | .panic s => .panic s)
      | .err e => .err e
      | .panic s => .panic s
  else if ivb.isEmpty then .ok .random
  else .ok (.given ivb)

theorem selectNonce_eq {u : CMap} {key : KeyView} {n : Nat} {iv piv : Option Bytes}
    (hi : getBytes (u.lookup (lbl Iana.HeaderParameterIV)) = .ok iv)
    (hp : getBytes (u.lookup (lbl Iana.HeaderParameterPartialIV)) = .ok piv) :
    selectNonce u key n = nonceFor key n (iv.getD []) (piv.getD []) := by
  unfold selectNonce; rw [hi, hp]; rfl

theorem selectNonce_ok {u : CMap} {key : KeyView} {n : Nat} {c : NonceChoice} (h : selectNonce u key n = .ok c) :
    ∃ iv piv, getBytes (u.lookup (lbl Iana.HeaderParameterIV)) = .ok iv ∧
      getBytes (u.lookup (lbl Iana.HeaderParameterPartialIV)) = .ok piv ∧
      nonceFor key n (iv.getD []) (piv.getD []) = .ok c := by
  unfold selectNonce at h
  split at h <;> try cases h
  exact ⟨_, _, ‹_›, ‹_›, h⟩

theorem nonceFor_random {key : KeyView} {n : Nat} {ivb pivb : Bytes} (h : nonceFor key n ivb pivb = .ok .random) :
    ivb = [] ∧ pivb = [] := by
  unfold nonceFor at h
  split at h
  · -- with a Partial IV the answer is an error or a derived nonce
    repeat' (split at h <;> try cases h)
  · split at h
    · exact ⟨List.isEmpty_iff.mp ‹_›, List.eq_nil_of_length_eq_zero (by omega)⟩
    · cases h

theorem nonceFor_given_of_piv {key : KeyView} {n : Nat} {ivb pivb iv : Bytes} (hp : pivb ≠ [])
    (h : nonceFor key n ivb pivb = .ok (.given iv)) : ∃ b, xorIV b pivb n = .ok iv := by
  unfold nonceFor at h
  rw [if_pos (List.length_pos_iff.mpr hp)] at h
  split at h <;> try cases h
  split at h <;> try cases h
  split at h <;> try cases h
  split at h <;> try cases h
  split at h <;> cases h
  exact ⟨_, ‹_›⟩

theorem verifyAuth_eq {m : Msg} {w : Wire} {a tb : Bytes} {key : KeyView} {ext : Option Bytes}
    (hw : m.mm = some w) (ha : w.auth = some a) (hm : algMismatch (m.prot.getD []) key.alg = false)
    (ht : tobe m.kind w none ext = .ok tb) (check : Bytes → Bytes → Res Unit) :
    verifyAuth m key check ext = check tb a := by
  simp only [verifyAuth, hw, ha, hm, ht, Bool.false_eq_true, if_false]

theorem verifySign_eq {m : Msg} {w : Wire} {sigs : List SigObj} {vs : List Verifier} (hw : m.mm = some w)
    (hs : w.sigs = some sigs) (hv : vs ≠ []) (hne : sigs ≠ []) (ext : Option Bytes) :
    verifySign m vs ext = verifySign.go vs ext w sigs := by
  simp only [verifySign, hw, hs, List.isEmpty_iff, hv, hne, if_false]

theorem decryptEnc_eq {m : Msg} {w : Wire} {ct aad iv pt : Bytes} {e : Encryptor} {ext : Option Bytes} {mode : PMode}
    {pv : PVal}
    (hw : m.mm = some w) (hc : w.payload = some ct) (hm : algMismatch (m.prot.getD []) e.key.alg = false)
    (ht : tobe m.kind { w with payload := none } none ext = .ok aad)
    (hs : selectNonce (m.unprot.getD []) e.key e.nonceSize = .ok (.given iv))
    (hd : e.decrypt iv ct aad = .ok pt) (hp : payloadFromWire mode (some pt) m.payload = .ok pv) :
    decryptEnc m mode e ext = .ok pv := by
  simp only [decryptEnc, hw, hc, hm, ht, hs, NonceChoice.ivOrEmpty, hd, hp, Bool.false_eq_true, if_false]

theorem decSeq_cons_ok {α β} {f : α → Dec β} {x : α} {xs : List α} {l : List β} (h : decSeq f (x :: xs) = .ok l) :
    ∃ a r, f x = .ok a ∧ decSeq f xs = .ok r ∧ l = a :: r := by
  unfold decSeq at h
  split at h <;> cases h
  exact ⟨_, _, ‹_›, ‹_›, rfl⟩

end Cose.Msg
