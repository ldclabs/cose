import Cose.Go.Labels
/-! Lemmas on `Res`, on the typed accessors and on look-up (in a label map, in a list by key id), through which the
    `Props` files reason without unfolding them. -/
namespace Cose.Go
namespace Res
variable {α : Type}

theorem isPanic_ite {c : Prop} [Decidable c] {a b : Res α} (ha : a.isPanic = false) (hb : b.isPanic = false) :
    (if c then a else b).isPanic = false := by
  split
  · exact ha
  · exact hb

theorem isOk_guard {c : Prop} [Decidable c] {e : String} {b : Res α} (hb : b.isOk = false) :
    (if c then .err e else b).isOk = false := by
  split
  · rfl
  · exact hb

theorem of_guard_ok {c : Prop} [Decidable c] {e : String} {b : Res α} {a : α}
    (h : (if c then .err e else b) = .ok a) : ¬ c ∧ b = .ok a := by
  split at h
  · cases h
  · exact ⟨‹_›, h⟩

theorem of_isOk_guard {c : Prop} [Decidable c] {e : String} {b : Res α}
    (h : (if c then .err e else b).isOk = true) : ¬ c ∧ b.isOk = true := by
  split at h
  · cases h
  · exact ⟨‹_›, h⟩

end Res
open Res

/-- `h` excludes a negative number of an unsigned kind, which no Go value is -/
theorem toInt_int (k : IntKind) (v : Int) (h : k.signed = false → 0 ≤ v) :
    toInt (.int k v) = if minInt32 ≤ v ∧ v ≤ maxInt32 then .ok v else .err "range" := by
  show (if k.signed = true then _ else _) = _
  cases hs : k.signed with
  | true => rfl
  | false =>
    have : minInt32 ≤ v := Int.le_trans (by decide) (h hs)
    simp only [this, true_and, Bool.false_eq_true, if_false]

theorem getBytes_never_panics (v : Option GoVal) : (getBytes v).isPanic = false := by
  cases v with
  | none => rfl
  | some x => cases x <;> rfl

theorem find?_attr_some {α β} [BEq β] [LawfulBEq β] {f : α → β} {b : β} {l : List α} {a : α}
    (h : l.find? (fun x => f x == b) = some a) : f a = b ∧ a ∈ l :=
  ⟨eq_of_beq (List.find?_some (p := fun x => f x == b) h), List.mem_of_find?_eq_some h⟩

theorem find?_attr_none {α β} [BEq β] [LawfulBEq β] {f : α → β} {b : β} {l : List α} :
    l.find? (fun x => f x == b) = none ↔ ∀ x ∈ l, f x ≠ b := by
  simp only [List.find?_eq_none, beq_iff_eq, ne_eq]

theorem lookup_cons_self (k : Label) (w : GoVal) (r : CMap) : CMap.lookup ((k, w) :: r) k = some w := by
  simp [CMap.lookup, List.find?]

theorem lookup_cons_ne {k l : Label} (hk : k ≠ l) (w : GoVal) (r : CMap) :
    CMap.lookup ((k, w) :: r) l = CMap.lookup r l := by
  simp only [CMap.lookup, List.find?, beq_false_of_ne hk]

theorem lookup_eq_map (m : CMap) (l : Label) : m.lookup l = (m.find? (fun kv => kv.1 == l)).map (·.2) := by
  unfold CMap.lookup; cases m.find? _ <;> rfl

theorem mem_of_lookup {m : CMap} {l : Label} {v : GoVal} (h : m.lookup l = some v) : (l, v) ∈ m := by
  obtain ⟨kv, hf, rfl⟩ := Option.map_eq_some_iff.mp (lookup_eq_map m l ▸ h)
  obtain ⟨rfl, hm⟩ := find?_attr_some hf
  exact hm

theorem lookup_eq_some_iff : ∀ (m : CMap) (l : Label) (v : GoVal), (m.map (·.1)).Nodup →
    (m.lookup l = some v ↔ (l, v) ∈ m)
  | [], l, v, _ => by simp [CMap.lookup]
  | (k, w) :: r, l, v, hnd => by
    obtain ⟨hk, hr⟩ := List.nodup_cons.mp hnd
    by_cases e : k = l
    · subst e
      have : (k, v) ∉ r := fun h => hk (List.mem_map.mpr ⟨_, h, rfl⟩)
      simp [lookup_cons_self, this, eq_comm]
    · rw [lookup_cons_ne e, lookup_eq_some_iff r l v hr]
      simp [Ne.symm e]

theorem lookup_perm {m m' : CMap} (hp : m'.Perm m) (hnd : (m.map (·.1)).Nodup) (l : Label) :
    m'.lookup l = m.lookup l := by
  have hnd' : (m'.map (·.1)).Nodup := ((hp.map (·.1)).nodup_iff).mpr hnd
  refine Option.ext fun v => ?_
  rw [lookup_eq_some_iff m' l v hnd', lookup_eq_some_iff m l v hnd]
  exact hp.mem_iff

theorem lookup_map_val (f : Label → GoVal → GoVal) : ∀ (m : CMap) (l : Label),
    CMap.lookup (m.map (fun kv => (kv.1, f kv.1 kv.2))) l = (m.lookup l).map (f l)
  | [], _ => rfl
  | (k, w) :: r, l => by
    by_cases hk : k = l
    · subst hk; rw [List.map_cons, lookup_cons_self, lookup_cons_self]; rfl
    · rw [List.map_cons, lookup_cons_ne hk, lookup_cons_ne hk, lookup_map_val f r l]

theorem lookup_append (m m' : CMap) (l : Label) : (m ++ m').lookup l = (m.lookup l).or (m'.lookup l) := by
  simp only [lookup_eq_map, List.find?_append, Option.map_or]

theorem lookup_set (m : CMap) (l l' : Label) (v : GoVal) :
    (m.set l v).lookup l' = if l = l' then some v else m.lookup l' := by
  have hf : (fun kv : Label × GoVal => if kv.1 == l then (l, v) else kv) =
      fun kv => (kv.1, (fun k w => if k = l then v else w) kv.1 kv.2) := by
    funext kv; by_cases h : kv.1 = l <;> simp [h]
  unfold CMap.set CMap.has
  split <;> rename_i hh
  · rw [hf, lookup_map_val (fun k w => if k = l then v else w)]
    by_cases hl : l = l'
    · subst hl; cases h : m.lookup l <;> simp [h] at hh ⊢
    · cases h : m.lookup l' <;> simp [hl, Ne.symm hl]
  · rw [lookup_append]
    by_cases hl : l = l'
    · subst hl; cases h : m.lookup l <;> simp [h, lookup_cons_self] at hh ⊢
    · rw [lookup_cons_ne hl]; cases h : m.lookup l' <;> simp [hl, CMap.lookup]

theorem has_cons (k l : Label) (w : GoVal) (r : CMap) : CMap.has ((k, w) :: r) l = (k == l || r.has l) := by
  unfold CMap.has
  by_cases h : k = l
  · subst h; simp [lookup_cons_self]
  · simp [lookup_cons_ne h, h]

theorem has_set (m : CMap) (l l' : Label) (v : GoVal) : (m.set l v).has l' = (l == l' || m.has l') := by
  unfold CMap.has
  rw [lookup_set]
  by_cases h : l = l' <;> simp [h]

end Cose.Go
