import Cose.Go.Labels
import Cose.Go.Lemmas
import Cose.Cbor.Corollaries
/-!
# `CoseMap` CBOR round trip (keys, header maps, claim maps with scalar / list values)

`encodeCMap` is `CoseMap.MarshalCBOR` (deterministic encoder), `decodeCMap` is `CoseMap.UnmarshalCBOR` (strict decoder +
`checkKey`).  `cmap_roundtrip`: for a map of at most `maxElems` entries with pairwise distinct labels in the int32 / text
range (`LabelOk`) whose values are scalars or lists of scalars (`Flat`: what the members of a COSE_Key and of header /
claim maps without nested maps are), decoding the encoding succeeds and yields a map with as many entries that answers
every label look-up with the *decoded form* (`normV`) of what the original answered: integers keep their value (the Go
kind becomes uint64 / int64), byte strings their bytes, text its bytes, booleans their value, lists their elements.
The order of the entries (Go map iteration order) does not matter.  `cmap_item` is the same fact with the CBOR items in
between exposed, for a map that sits inside a larger item.  `getInt_map_normV`, `getBytes_map_normV`,
`getBool_map_normV`, `getString_map_normV`: the typed accessors answer the same on a value and on its decoded form,
except `GetBytes` on a nil `[]byte`.
-/
namespace Cose.Go
open Cose.Cbor

/-- the form a decoded integer takes (`ofCbor_ofInt`) -/
def normInt (v : Int) : GoVal := if v ≥ 0 then .int .u64 v else .int .i64 v

/-- decoded form of a scalar -/
def normS : GoVal → GoVal
  | .int _ v => normInt v
  | .bstr b => .bytes b
  | .bnil => .nil
  | v => v

def normV : GoVal → GoVal
  | .ints xs => .list (xs.map normInt)
  | .ops xs => .list (xs.map normInt)
  | .list xs => .list (xs.map normS)
  | v => normS v

def IntOk (v : Int) : Prop := -9223372036854775808 ≤ v ∧ v < 18446744073709551616

instance (v : Int) : Decidable (IntOk v) := by unfold IntOk; infer_instance

inductive Scalar : GoVal → Prop
  | int (k : IntKind) (v : Int) (h : IntOk v) (hk : k.signed = false → 0 ≤ v) : Scalar (.int k v)
  | bytes (b : Bytes) (h : b.length < two64) : Scalar (.bytes b)
  | bnil : Scalar .bnil
  | bstr (b : Bytes) (h : b.length < two64) : Scalar (.bstr b)
  | str (s : Bytes) (h : s.length < two64 ∧ validUtf8 s = true) : Scalar (.str s)
  | bool (b : Bool) : Scalar (.bool b)
  | nil : Scalar .nil

/-- scalars and lists of scalars (`[]any`, `[]int`, `key.Ops`) -/
inductive Flat : GoVal → Prop
  | scalar (v : GoVal) (h : Scalar v) : Flat v
  | ints (xs : List Int) (h : ∀ x ∈ xs, IntOk x) (hl : xs.length ≤ maxElems) : Flat (.ints xs)
  | ops (xs : List Int) (h : ∀ x ∈ xs, IntOk x) (hl : xs.length ≤ maxElems) : Flat (.ops xs)
  | list (xs : List GoVal) (h : ∀ x ∈ xs, Scalar x) (hl : xs.length ≤ maxElems) : Flat (.list xs)

theorem ofCbor_ofInt (v : Int) (h : IntOk v) : ofCbor (Cbor.ofInt v) = some (normInt v) := by
  unfold IntOk at h
  by_cases hv : 0 ≤ v
  · rw [ofInt_of_nonneg hv, normInt, if_pos hv, ofCbor, Int.toNat_of_nonneg hv]
  · have hn : (-1 - v).toNat < 9223372036854775808 := by omega
    rw [ofInt_of_neg (by omega), normInt, if_neg hv, ofCbor, if_pos hn]
    congr 2; omega

theorem int_item {v : Int} (h : IntOk v) :
    WF (Cbor.ofInt v) ∧ depth (Cbor.ofInt v) = 0 ∧ ofCbor (Cbor.ofInt v) = some (normInt v) :=
  ⟨wf_ofInt v h, depth_ofInt v, ofCbor_ofInt v h⟩

theorem normInt_kind (v : Int) : ∃ k, normInt v = .int k v ∧ (k.signed = false → 0 ≤ v) := by
  unfold normInt
  split
  · exact ⟨.u64, rfl, fun _ => ‹_›⟩
  · exact ⟨.i64, rfl, nofun⟩

/-- the item of a value (`null` stands in where there is none, which the proofs never meet) -/
def cv (v : GoVal) : Cbor := (toCbor v).getD Cbor.null

theorem scalar_toCbor {v : GoVal} (h : Scalar v) :
    toCbor v = some (cv v) ∧ WF (cv v) ∧ depth (cv v) = 0 ∧ ofCbor (cv v) = some (normS v) := by
  cases h with
  | int k v h _ => exact ⟨rfl, int_item h⟩
  | bytes b h => exact ⟨rfl, h, rfl, rfl⟩
  | bnil => exact ⟨rfl, Or.inl (by decide), rfl, rfl⟩
  | bstr b h => exact ⟨rfl, h, rfl, rfl⟩
  | str s h => exact ⟨rfl, h, rfl, rfl⟩
  | bool b => cases b <;> exact ⟨rfl, Or.inl (by decide), rfl, rfl⟩
  | nil => exact ⟨rfl, Or.inl (by decide), rfl, rfl⟩

theorem normV_scalar {v : GoVal} (h : Scalar v) : normV v = normS v := by cases h <;> rfl

theorem toCborList_map : ∀ {xs : List GoVal}, (∀ x ∈ xs, toCbor x = some (cv x)) → toCborList xs = some (xs.map cv)
  | [], _ => rfl
  | x :: xs, h => by
    rw [List.forall_mem_cons] at h
    simp only [toCborList, h.1, toCborList_map h.2, List.map_cons]

theorem items_map {α} {f : α → Cbor} {g : α → GoVal} : ∀ {xs : List α},
    (∀ x ∈ xs, WF (f x) ∧ depth (f x) = 0 ∧ ofCbor (f x) = some (g x)) →
    WFList (xs.map f) ∧ depthList (xs.map f) = 0 ∧ ofCborList (xs.map f) = some (xs.map g)
  | [], _ => ⟨trivial, rfl, rfl⟩
  | x :: xs, h => by
    obtain ⟨⟨hwx, hdx, hox⟩, hr⟩ := List.forall_mem_cons.mp h
    obtain ⟨hw, hd, ho⟩ := items_map hr
    exact ⟨⟨hwx, hw⟩, by simp only [List.map_cons, depthList, hdx, hd]; rfl,
      by simp only [List.map_cons, ofCborList, hox, ho]⟩

theorem arr_of_map {α} {f : α → Cbor} {g : α → GoVal} {xs : List α} (hl : xs.length ≤ maxElems)
    (h : ∀ x ∈ xs, WF (f x) ∧ depth (f x) = 0 ∧ ofCbor (f x) = some (g x)) :
    WF (.arr (xs.map f)) ∧ depth (.arr (xs.map f)) ≤ 1 ∧ ofCbor (.arr (xs.map f)) = some (.list (xs.map g)) := by
  obtain ⟨hw, hd, ho⟩ := items_map h
  exact ⟨⟨by rw [List.length_map]; exact hl, hw⟩, by simp only [depth, hd]; omega,
    by simp only [ofCbor, ho, Option.map_some]⟩

theorem flat_toCbor {v : GoVal} (h : Flat v) :
    toCbor v = some (cv v) ∧ WF (cv v) ∧ depth (cv v) ≤ 1 ∧ ofCbor (cv v) = some (normV v) := by
  cases h with
  | scalar v h =>
    obtain ⟨hc, hw, hd, ho⟩ := scalar_toCbor h
    exact ⟨hc, hw, by omega, by rw [normV_scalar h]; exact ho⟩
  | ints xs h hl => exact ⟨rfl, arr_of_map hl fun x hx => int_item (h x hx)⟩
  | ops xs h hl => exact ⟨rfl, arr_of_map hl fun x hx => int_item (h x hx)⟩
  | list xs h hl =>
    have e : toCbor (.list xs) = some (.arr (xs.map cv)) := by
      rw [toCbor, toCborList_map fun x hx => (scalar_toCbor (h x hx)).1]; rfl
    rw [cv, e]
    exact ⟨rfl, arr_of_map hl fun x hx => (scalar_toCbor (h x hx)).2⟩

def LabelOk : Label → Prop
  | .int i => minInt32 ≤ i ∧ i ≤ maxInt32
  | .text s => s.length < two64 ∧ validUtf8 s = true

instance (l : Label) : Decidable (LabelOk l) := by cases l <;> unfold LabelOk <;> infer_instance

/-- the Go value a decoded label is -/
def labelGo : Label → GoVal
  | .int i => normInt i
  | .text s => .str s

theorem label_facts {l : Label} (h : LabelOk l) :
    WF l.toCbor ∧ depth l.toCbor = 0 ∧ hashableKey l.toCbor = true ∧ ofCbor l.toCbor = some (labelGo l) ∧
      checkKey (labelGo l) = .ok l := by
  cases l with
  | int i =>
    have hi : IntOk i := by unfold LabelOk minInt32 maxInt32 at h; unfold IntOk; omega
    refine ⟨wf_ofInt i hi, depth_ofInt i, hashable_ofInt i, ofCbor_ofInt i hi, ?_⟩
    unfold LabelOk at h
    unfold labelGo normInt
    by_cases hv : i ≥ 0
    · simp only [hv, if_true, checkKey, h.2]
    · simp only [hv, if_false, checkKey, h.1, h.2, and_self, if_true]
  | text s => exact ⟨h, rfl, rfl, rfl, rfl⟩

/-- `checkKey` after decoding is a left inverse of the encoding, so labels with the same octets are the same label -/
theorem label_encode_inj {a b : Label} (ha : LabelOk a) (hb : LabelOk b) (h : encode a.toCbor = encode b.toCbor) : a = b := by
  obtain ⟨wa, _, _, oa, ca⟩ := label_facts ha
  obtain ⟨wb, _, _, ob, cb⟩ := label_facts hb
  rw [encode_inj wa wb h, ob] at oa
  rw [← Option.some.inj oa, cb] at ca
  exact (Res.ok.inj ca).symm

/-- the CBOR entry of a map entry (total version of what `cmapPairs` computes) -/
def entryCbor (kv : Label × GoVal) : Cbor × Cbor := (kv.1.toCbor, cv kv.2)

/-- the decoded entry, before and after `checkKey` -/
def entryGo (kv : Label × GoVal) : GoVal × GoVal := (labelGo kv.1, normV kv.2)
def entryNorm (kv : Label × GoVal) : Label × GoVal := (kv.1, normV kv.2)

def EntryOk (kv : Label × GoVal) : Prop := LabelOk kv.1 ∧ Flat kv.2

theorem flat_of_lookup {m : CMap} (hok : ∀ kv ∈ m, EntryOk kv) {l : Label} {v : GoVal} (h : m.lookup l = some v) : Flat v :=
  (hok (l, v) (mem_of_lookup h)).2

theorem cmapPairs_eq : ∀ (m : CMap), (∀ kv ∈ m, EntryOk kv) → cmapPairs m = some (m.map entryCbor)
  | [], _ => rfl
  | (l, v) :: r, h => by
    have ih := cmapPairs_eq r (fun kv hkv => h kv (List.mem_cons_of_mem _ hkv))
    simp only [cmapPairs, (flat_toCbor (h (l, v) List.mem_cons_self).2).1, ih, List.map_cons, entryCbor]

theorem entries_wf : ∀ (m : CMap), (∀ kv ∈ m, EntryOk kv) →
    WFPairs (m.map entryCbor) ∧ depthPairs (m.map entryCbor) ≤ 1 ∧
      (m.map entryCbor).all (fun kv => hashableKey kv.1) = true ∧
      ofCborPairs (m.map entryCbor) = some (m.map entryGo) ∧ cmapOfPairs (m.map entryGo) = .ok (m.map entryNorm)
  | [], _ => ⟨trivial, by simp [depthPairs], rfl, rfl, rfl⟩
  | (l, v) :: r, h => by
    obtain ⟨hl, hf⟩ : LabelOk l ∧ Flat v := h (l, v) List.mem_cons_self
    obtain ⟨_, hw, hd, ho⟩ := flat_toCbor hf
    obtain ⟨lw, ld, lh, lo, lc⟩ := label_facts hl
    obtain ⟨iw, idp, ih, io, ic⟩ := entries_wf r (fun kv hkv => h kv (List.mem_cons_of_mem _ hkv))
    have e : entryCbor (l, v) = (l.toCbor, cv v) := rfl
    simp only [List.map_cons, e]
    refine ⟨⟨lw, hw, iw⟩, ?_, ?_, ?_, ?_⟩
    · simp only [depthPairs, ld]; omega
    · simp only [List.all_cons, lh, ih, Bool.and_self]
    · simp only [ofCborPairs, lo, ho, io, entryGo]
    · simp only [entryGo, cmapOfPairs, lc, ic, entryNorm]

def entryKeyLe (a b : Label × GoVal) : Bool := bytesLe (encode a.1.toCbor) (encode b.1.toCbor)

def sortM (m : CMap) : CMap := m.mergeSort entryKeyLe

/-- **the item of a label map**: `c` is the item `MarshalCBOR` builds (entries in the order given), `.map ps` the
    canonical item with the same octets (the one a decoder sees), `g` and `m'` what `UnmarshalCBOR` makes of `ps` before
    and after `checkKey` -/
theorem cmap_item (m : CMap) (hok : ∀ kv ∈ m, EntryOk kv) (hnd : (m.map (·.1)).Nodup) (hlen : m.length ≤ maxElems) :
    ∃ c ps g m', m.toCbor = some c ∧ encode (.map ps) = encode c ∧ WF (.map ps) ∧ depth (.map ps) ≤ 2 ∧
      ofCborPairs ps = some g ∧ cmapOfPairs g = .ok m' ∧ m'.length = m.length ∧
      ∀ l, m'.lookup l = (m.lookup l).map normV := by
  have hp : (sortM m).Perm m := List.mergeSort_perm m _
  have hok' : ∀ kv ∈ sortM m, EntryOk kv := fun kv h => hok kv (hp.subset h)
  obtain ⟨hw, hd, hh, hof, hcm⟩ := entries_wf (sortM m) hok'
  -- distinct labels have distinct octets
  have nd : m.Pairwise fun a b => encode a.1.toCbor ≠ encode b.1.toCbor :=
    (List.pairwise_map.mp hnd).imp_of_mem fun ha hb hne he => hne (label_encode_inj (hok _ ha).1 (hok _ hb).1 he)
  -- hence the encoding does not depend on the entry order
  have henc : encode (.map ((sortM m).map entryCbor)) = encode (.map (m.map entryCbor)) := by
    refine (encode_map_perm (hp.symm.map entryCbor) ?_).symm
    rw [encodePairs_eq_map, List.map_map, List.map_map]
    exact List.pairwise_map.mpr nd
  -- hence, in order by encoded label, the entries are strictly increasing
  have hle : (sortM m).Pairwise (fun a b => entryKeyLe a b = true) :=
    List.pairwise_mergeSort (le := entryKeyLe) (fun _ _ _ => bytesLe_trans _ _ _) (fun _ _ => bytesLe_total _ _) m
  have hks : KeysSorted ((sortM m).map entryCbor) := by
    unfold KeysSorted
    rw [encodePairs_eq_map, List.map_map, List.pairwise_map]
    exact (hle.and (nd.perm hp.symm Ne.symm)).imp bytesLt_iff.2
  refine ⟨.map (m.map entryCbor), (sortM m).map entryCbor, (sortM m).map entryGo, (sortM m).map entryNorm, ?_, henc,
    ⟨by rw [List.length_map, hp.length_eq]; exact hlen, hw, hks, hh⟩, by simp only [depth]; omega, hof, hcm, ?_, fun l => ?_⟩
  · rw [CMap.toCbor, cmapPairs_eq m hok]; rfl
  · rw [List.length_map, hp.length_eq]
  · exact (lookup_map_val (fun _ => normV) _ l).trans (congrArg _ (lookup_perm hp hnd l))

/-- **`CoseMap` CBOR round trip**: for a map of at most `maxElems` entries with pairwise distinct, in-range labels and
    scalar / list values, `UnmarshalCBOR(MarshalCBOR(m))` succeeds, has as many entries and answers every look-up with
    the decoded form of the original answer, whatever the order the entries were presented in. -/
theorem cmap_roundtrip (m : CMap) (hok : ∀ kv ∈ m, EntryOk kv) (hnd : (m.map (·.1)).Nodup)
    (hlen : m.length ≤ maxElems) :
    ∃ b m', encodeCMap m = some b ∧ decodeCMap b = .ok m' ∧ m'.length = m.length ∧
      ∀ l, m'.lookup l = (m.lookup l).map normV := by
  obtain ⟨c, ps, g, m', hc, henc, hwf, hdepth, hg, hm, hl, hlook⟩ := cmap_item m hok hnd hlen
  refine ⟨encode c, m', by rw [encodeCMap, hc]; rfl, ?_, hl, hlook⟩
  unfold decodeCMap
  rw [← henc, decodeAll_encode _ hwf (Nat.le_trans hdepth (by decide))]
  simp only [Option.map_some, untag, hg, hm]

theorem encodeCMap_ne_nil {m : CMap} {b : Bytes} (h : encodeCMap m = some b) : b ≠ [] := by
  obtain ⟨c, -, rfl⟩ := Option.map_eq_some_iff.mp h
  exact encode_ne_nil c

theorem toInt_normInt (k : IntKind) (v : Int) (hk : k.signed = false → 0 ≤ v) : toInt (normInt v) = toInt (.int k v) := by
  obtain ⟨k', e, hk'⟩ := normInt_kind v
  rw [e, toInt_int k v hk, toInt_int k' v hk']

theorem normV_int (k : IntKind) (v : Int) : normV (.int k v) = normInt v := rfl

/-- a decoded integer is still an integer, which no accessor but the integer ones takes -/
theorem int_normInt {α} (f : Option GoVal → α) (k : IntKind) (v : Int) (hf : ∀ k', f (some (.int k' v)) = f (some (.int k v))) :
    f (some (normInt v)) = f (some (.int k v)) := by
  obtain ⟨k', e, _⟩ := normInt_kind v
  rw [e, hf]

theorem getInt_map_normV {o : Option GoVal} (h : ∀ v, o = some v → Flat v) : getInt (o.map normV) = getInt o := by
  cases o with
  | none => rfl
  | some v =>
    cases h v rfl with
    | scalar v hs =>
      cases hs with
      | int k v h hk => exact toInt_normInt k v hk
      | _ => rfl
    | _ => rfl

/-- `h`: a nil `[]byte` member comes back as CBOR null, which is not a byte string any more; `GetBytes` then reports a
    type error -/
theorem getBytes_map_normV {o : Option GoVal} (h : o ≠ some .bnil) : getBytes (o.map normV) = getBytes o := by
  rcases o with _ | v
  · rfl
  cases v with
  | int k v => exact int_normInt getBytes k v fun _ => rfl
  | bnil => exact absurd rfl h
  | _ => rfl

theorem getBool_map_normV (o : Option GoVal) : getBool (o.map normV) = getBool o := by
  rcases o with _ | v
  · rfl
  cases v with
  | int k v => exact int_normInt getBool k v fun _ => rfl
  | _ => rfl

theorem getString_map_normV (o : Option GoVal) : getString (o.map normV) = getString o := by
  rcases o with _ | v
  · rfl
  cases v with
  | int k v => exact int_normInt getString k v fun _ => rfl
  | _ => rfl

theorem getString_normV (v : GoVal) : getString (some (normV v)) = getString (some v) := getString_map_normV (some v)

end Cose.Go
