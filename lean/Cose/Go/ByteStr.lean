import Cose.Bytes
/-!
# `key.ByteStr` text and JSON forms (mirror of /repo/key/bytestr.go)

`MarshalText` is lower-case hex; `MarshalJSON` the same between quotes.  `UnmarshalText` is `hex.DecodeString` (either
case, even length); `UnmarshalJSON` accepts `null` (leaves the value alone) or a quoted hex string of at least the two
quotes.  Keys, header maps and claim maps use these forms around their CBOR encoding.  `text_roundtrip` and
`json_roundtrip`: each `Unmarshal…` reads back what its `Marshal…` wrote.
-/
namespace Cose.Go.ByteStr
open Cose

def hexDigit (n : UInt8) : UInt8 := if n < 10 then 48 + n else 87 + n     -- '0'.. / 'a'..

def hexEncode : Bytes → Bytes
  | [] => []
  | x :: r => hexDigit (x / 16) :: hexDigit (x % 16) :: hexEncode r

def hexVal (c : UInt8) : Option UInt8 :=
  if 48 ≤ c ∧ c ≤ 57 then some (c - 48)
  else if 97 ≤ c ∧ c ≤ 102 then some (c - 87)
  else if 65 ≤ c ∧ c ≤ 70 then some (c - 55)
  else none

def hexDecode : Bytes → Option Bytes
  | [] => some []
  | [_] => none
  | a :: b :: r =>
    match hexVal a, hexVal b, hexDecode r with
    | some x, some y, some rest => some ((x * 16 + y) :: rest)
    | _, _, _ => none

def marshalText (b : Bytes) : Bytes := hexEncode b
def unmarshalText (t : Bytes) : Option Bytes := hexDecode t

def quote : UInt8 := 34
def marshalJSON (b : Bytes) : Bytes := quote :: (hexEncode b ++ [quote])

/-- `none`: error; `some none`: `null`, the destination is left alone; `some (some b)`: the decoded octets -/
def unmarshalJSON (d : Bytes) : Option (Option Bytes) :=
  if d = [110, 117, 108, 108] then some none            -- "null"
  else if d.length < 2 then none
  else if d.head? ≠ some quote ∨ d.getLast? ≠ some quote then none
  else (hexDecode ((d.drop 1).take (d.length - 2))).map some

theorem hexVal_hexDigit {n : UInt8} (h : n.toNat < 16) : hexVal (hexDigit n) = some n := by
  have all : ∀ i : Fin 16, hexVal (hexDigit (UInt8.ofNat i)) = some (UInt8.ofNat i) := by decide
  simpa using all ⟨n.toNat, h⟩

theorem nibbles (x : UInt8) : (x / 16).toNat < 16 ∧ (x % 16).toNat < 16 ∧ x / 16 * 16 + x % 16 = x := by
  have := x.toNat_lt
  refine ⟨?_, ?_, UInt8.toNat_inj.mp ?_⟩ <;>
    simp only [UInt8.toNat_div, UInt8.toNat_mod, UInt8.toNat_add, UInt8.toNat_mul, UInt8.toNat_ofNat, Nat.reducePow,
      Nat.reduceMod] <;> omega

theorem hexDecode_hexEncode (b : Bytes) : hexDecode (hexEncode b) = some b := by
  induction b with
  | nil => rfl
  | cons x r ih =>
    obtain ⟨h1, h2, h3⟩ := nibbles x
    simp only [hexEncode, hexDecode, hexVal_hexDigit h1, hexVal_hexDigit h2, ih, h3]

theorem text_roundtrip (b : Bytes) : unmarshalText (marshalText b) = some b := hexDecode_hexEncode b

/-- despite the name: `hexEncode b ++ [quote]` ends in the quote, as any list in place of `hexEncode b` would -/
theorem hexEncode_no_quote_head (b : Bytes) : (hexEncode b ++ [quote]).getLast? = some quote := List.getLast?_concat

theorem unmarshalJSON_quoted (t : Bytes) : unmarshalJSON (quote :: (t ++ [quote])) = (hexDecode t).map some := by
  unfold unmarshalJSON
  have hne : (quote :: (t ++ [quote])) ≠ [110, 117, 108, 108] := by
    intro h; simp [quote] at h
  have hlast : (quote :: (t ++ [quote])).getLast? = some quote := List.getLast?_concat (l := quote :: t)
  have hmid : ((quote :: (t ++ [quote])).drop 1).take ((quote :: (t ++ [quote])).length - 2) = t := by simp
  rw [if_neg hne, if_neg (by simp), if_neg (by simp [hlast]), hmid]

/-- **the JSON form round-trips** (a value is never emitted as `null`) -/
theorem json_roundtrip (b : Bytes) : unmarshalJSON (marshalJSON b) = some (some b) := by
  rw [marshalJSON, unmarshalJSON_quoted, hexDecode_hexEncode]; rfl

end Cose.Go.ByteStr
