import Cose.Props.Authd
import Cose.Msg.Ops
import Cose.Props.C12 -- the reduction ends in C12's uniqueness theorems: they stay in the cone that check C03 builds
/-!
# C03 — encrypted messages bind ciphertext to nonce, protected headers and external data

Reduction, as for C02: a successful `Decrypt` means the AEAD opened the *received* ciphertext under the nonce
derived from the *received* IV / Partial IV (C06) with additional data = the RFC 9052 `Enc_structure` of the
*received* protected bytes and the caller's external data.  For AES-GCM and ChaCha20/Poly1305 the C12 theorems then
say that what opened is the sealing of the returned plaintext under exactly these inputs (`gcm_open_unique`,
`chacha_open_unique`; there is no such theorem for CCM), so an accepted change is a tag forgery.  On every failure the
message's payload is left as it was (`decrypt_failure_preserves_payload`).
-/
namespace Cose.Props.C03
open Cose.Msg Cose.Go Cose.Cbor Cose.Spec.Rfc9052 Cose.Gen

/-- **soundness of Decrypt** (both kinds): success implies the AEAD accepted the received ciphertext with the
    nonce selected from the received headers and the additional data computed from the received protected bytes -/
theorem decrypt_sound (m : Msg) (mode : PMode) (e : Encryptor) (ext : Option Bytes) (pv : PVal)
    (h : decryptEnc m mode e ext = .ok pv) :
    ∃ w ct aad choice pt, m.mm = some w ∧ w.payload = some ct ∧ algMismatch (m.prot.getD []) e.key.alg = false ∧
      tobe m.kind { w with payload := none } none ext = .ok aad ∧
      selectNonce (m.unprot.getD []) e.key e.nonceSize = .ok choice ∧
      e.decrypt choice.ivOrEmpty ct aad = .ok pt := by
  unfold decryptEnc at h
  split at h <;> try cases h
  split at h <;> try cases h
  split at h <;> try cases h
  split at h <;> try cases h
  split at h <;> try cases h
  split at h <;> try cases h
  exact ⟨_, _, _, _, _, ‹_›, ‹_›, Bool.eq_false_iff.mpr ‹_›, ‹_›, ‹_›, ‹_›⟩

/-- `random` on the decrypt side (neither IV nor Partial IV in the message): the AEAD is handed the empty nonce -/
theorem missing_iv_gives_empty_nonce : NonceChoice.random.ivOrEmpty = [] := rfl

/-- the object-level `Decrypt`: the message after the call -/
def decryptMsg (m : Msg) (mode : PMode) (e : Encryptor) (ext : Option Bytes) : Msg × Res Unit :=
  match decryptEnc m mode e ext with
  | .ok pv => ({ m with payload := pv }, .ok ())
  | .err x => (m, .err x)
  | .panic s => (m, .panic s)

/-- **on failure no plaintext, partial or complete, is placed in the message's payload** -/
theorem decrypt_failure_preserves_payload (m : Msg) (mode : PMode) (e : Encryptor) (ext : Option Bytes)
    (h : (decryptMsg m mode e ext).2 ≠ .ok ()) : (decryptMsg m mode e ext).1 = m := by
  unfold decryptMsg at *
  cases hd : decryptEnc m mode e ext with
  | ok pv => simp [hd] at h
  | err x => rfl
  | panic s => rfl

theorem enc0_aad_injective (p p' e e' : Option Bytes)
    (hp : Cose.Props.C04.WFb p) (he : Cose.Props.C04.WFb e) (hp' : Cose.Props.C04.WFb p') (he' : Cose.Props.C04.WFb e')
    (h : encode (encStructure0 p e) = encode (encStructure0 p' e')) : p = p' ∧ e.getD [] = e'.getD [] := by
  have := Cose.Props.Authd.authd_injective (.enc0 p e) (.enc0 p' e') ⟨hp, he⟩ ⟨hp', he'⟩ h
  simpa [Cose.Props.Authd.Authd.norm, Cose.Props.Authd.normExt] using this

end Cose.Props.C03
