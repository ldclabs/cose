import Cose.Msg.Model
import Cose.Msg.Kdf
/-!
# C08 — the message arrays have a fixed arity, and `[]byte` members a fixed type

The six kinds are `toarray` structs of 3 (COSE_Encrypt0), 4 (COSE_Sign1, COSE_Sign, COSE_Mac0, COSE_Encrypt) or
5 (COSE_Mac) members; a signature entry has 3 members, a recipient 3 or 4.  An array of any other length is refused
whatever its members are (`wire_arity_exact`, `signature_arity_exact`, `recipient_arity_exact`), and so is an item that
is no array (`wire_needs_array`).  A member declared `[]byte` that holds something else is refused
(`byte_member_wrong_type_rejected`), and so is the party of a COSE_KDF_Context that has such a member
(`party_member_wrong_type_rejected`).
-/
namespace Cose.Props.C08Wire
open Cose.Msg Cose.Go Cose.Cbor

def arity : Kind → Nat
  | .encrypt0 => 3
  | .mac => 5
  | _ => 4

/-- **an array of another length is not a message of that kind** -/
theorem wire_arity_exact (k : Kind) (xs : List Cbor) (h : xs.length ≠ arity k) : wireOfCbor k (.arr xs) = .err := by
  unfold wireOfCbor
  simp only [untag]
  -- a pattern of `wireOfCbor` that fits `k` and `xs` gives `xs` the arity of `k`; the last one answers `.err`
  split <;> first | rfl | (cases ‹Cbor.arr xs = _›; exact absurd rfl h)

/-- **an array of a length other than three is not a signature entry** -/
theorem signature_arity_exact (xs : List Cbor) (h : xs.length ≠ 3) : sigField (.arr xs) = .err := by
  unfold sigField
  simp only [untag]
  split
  · cases ‹Cbor.arr xs = _›
    exact absurd rfl h
  · rfl

/-- **an array of a length other than three or four is not a recipient** -/
theorem recipient_arity_exact (xs : List Cbor) (h3 : xs.length ≠ 3) (h4 : xs.length ≠ 4) : recipField (.arr xs) = .err := by
  unfold recipField
  split
  · cases ‹Cbor.arr xs = _›
    exact absurd rfl h3
  · cases ‹Cbor.arr xs = _›
    exact absurd rfl h4
  · rfl

/-- **an item that is no array** (a map, a byte string, a number), tagged or not, **is no message** -/
theorem wire_needs_array (k : Kind) (c : Cbor) (h : ∀ xs, untag c ≠ .arr xs) : wireOfCbor k c = .err := by
  unfold wireOfCbor
  -- every pattern but the last wants an array
  split <;> first | rfl | exact absurd ‹untag c = _› (h _)

-- non-vacuity: a five-member COSE_Sign1 array
example : wireOfCbor .sign1 (.arr [.bstr [], .map [], .bstr [1], .bstr [2], Cbor.null]) = .err :=
  wire_arity_exact .sign1 _ (by decide)

/-- **a member declared `[]byte` that holds text, an integer, a map, a boolean, a float or a simple value other than null
    and undefined is refused**.  A tag is looked through to its content (`ht`); arrays are the known finding D12
    (DESIGN §9) and stay outside the statement (`ha`). -/
theorem byte_member_wrong_type_rejected (c : Cbor) (hb : ∀ b, c ≠ .bstr b) (h22 : c ≠ .simple 22) (h23 : c ≠ .simple 23)
    (ht : ∀ t v, c ≠ .tag t v) (ha : ∀ xs, c ≠ .arr xs) : bytesField c = .err := by
  -- the six equations of `bytesField`: a hypothesis excludes each of the first five, the last answers `.err`
  unfold bytesField
  split
  · exact absurd rfl (hb _)
  · exact absurd rfl h22
  · exact absurd rfl h23
  · exact absurd rfl (ht _ _)
  · exact absurd rfl (ha _)
  · rfl

/-- **a COSE_KDF_Context party whose identity, nonce or other member has a wrong type is refused**, whichever member it
    is and whatever the other two hold -/
theorem party_member_wrong_type_rejected (a b d : Cbor)
    (h : bytesField a = .err ∨ bytesField b = .err ∨ bytesField d = .err) : partyInfoField (.arr [a, b, d]) = .err := by
  unfold partyInfoField
  simp only [untag]
  rcases h with h | h | h
  · rw [h]
  · rw [h]; cases bytesField a <;> rfl
  · rw [h]; cases bytesField a <;> cases bytesField b <;> rfl

-- non-vacuity: a text nonce, a map as identity, a boolean as other
example : partyInfoField (.arr [.bstr [1], .tstr [0x6e], Cbor.null]) = .err :=
  party_member_wrong_type_rejected _ _ _ (.inr (.inl (byte_member_wrong_type_rejected _ (by simp) (by simp) (by simp) (by simp) (by simp))))
example : partyInfoField (.arr [.map [], .bstr [], .bstr []]) = .err := party_member_wrong_type_rejected _ _ _ (.inl rfl)
example : partyInfoField (.arr [.bstr [], .bstr [], .simple 21]) = .err := party_member_wrong_type_rejected _ _ _ (.inr (.inr rfl))

end Cose.Props.C08Wire
