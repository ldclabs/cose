import Cose.Msg.Lemmas
import Cose.Props.C05
/-!
# C01 — every COSE message the library produces is accepted back with identical content

COSE_Sign1 and COSE_Mac0, for every payload / external data / key / unprotected header set:
* `auth4_roundtrip_core` — the general statement: whatever protected map the message carries (none, i.e. the default
  bucket `{1: alg}`, or the caller's own), if its octets decode to a map that passes the verifying key's algorithm check,
  the produced message is decoded to the very protected bytes, payload and signature / tag and verifies under any
  verifier that is correct for the signer (`SigCorrect`: for the signature schemes the one cryptographic assumption; for the AEADs
  the corresponding `AeadCorrect` is a theorem, `C01Enc.*_encryptor_correct` from C12; for the MACs `C11.macVerify_iff` says
  the comparison accepts exactly the expected tag, the instance of `SigCorrect` itself is not stated);
* `auth4_roundtrip`, `auth4_roundtrip_any_order`, `auth4_roundtrip_typed` — its instances for the default bucket
  (`default_bucket`), with the unprotected map in any entry order (`Msg.hdr_any_order`) and raw or typed payloads;
  caller-supplied protected maps (`Msg.supplied_bucket`, of which the default bucket is the one-entry case) and named
  byte-slice payloads are in `C01Prot.lean`.
The statements for the default bucket carry `ha : key.alg ≠ 0`; the proofs do not use it (`default_bucket` covers a key that
names no algorithm: the empty bucket).
The other kinds: `C01Enc.lean`, `C01EncR.lean`, `C01Sign.lean`, `C01Mac.lean`; the untagged and CWT-tagged input forms:
`C01Forms.lean`.  Nested-map header values and nested recipients are covered by the correspondence run `msg:C01` only.
-/
namespace Cose.Props.C01
open Cose.Msg Cose.Go Cose.Cbor Cose.Gen

/-- signature correctness: what the signer signs, the verifier accepts -/
def SigCorrect (sign : Bytes → Res Bytes) (verify : Bytes → Bytes → Res Unit) : Prop :=
  ∀ data sig, sign data = .ok sig → verify data sig = .ok ()

theorem default_bucket_bytes (a : Int) :
    hdrBytes (some [(Msg.lbl Iana.HeaderParameterAlg, GoVal.int .alg a)]) =
      .ok (encode (.map [(Cbor.ofInt 1, Cbor.ofInt a)])) := by
  have : Msg.lbl Iana.HeaderParameterAlg = Label.int 1 := rfl
  simp [hdrBytes, encodeCMap, CMap.toCbor, cmapPairs, toCbor, this, Label.toCbor]

/-- the default protected bucket `{1: alg}` decodes back to a map whose algorithm is `alg` -/
theorem default_bucket_roundtrip (a : Int) (ha : -2147483648 ≤ a ∧ a ≤ 2147483647) :
    ∃ pm, hdrFromBytes (some (encode (.map [(Cbor.ofInt 1, Cbor.ofInt a)]))) = .ok pm ∧
      algMismatch pm a = false := by
  obtain ⟨pb, pm, -, hpb, hpm, -, hmm⟩ := supplied_bucket [(Msg.lbl Iana.HeaderParameterAlg, .int .alg a)] a
    (List.cons_ne_nil _ _)
    (fun kv hkv => by
      cases List.mem_singleton.mp hkv
      exact ⟨⟨by decide, by decide⟩, .scalar _ (.int _ _ ⟨by omega, by omega⟩ nofun)⟩)
    (by simp) (by simp [maxElems])
  obtain rfl : pb = _ := Res.ok.inj (hpb.symm.trans (default_bucket_bytes a))
  -- `default_protected_consistent` takes a `KeyView` and reads its algorithm only
  exact ⟨pm, hpm, hmm.trans (Cose.Props.C05.default_protected_consistent ⟨a, none, .ok none⟩ ha)⟩

/-- `len(mm.Payload) > 0` is what fills `m.Payload`: an empty payload decodes to the zero value (nil) -/
def nonEmpty : Option Bytes → Option Bytes
  | some (x :: r) => some (x :: r)
  | _ => none

theorem payloadFromWire_raw (y : Option Bytes) :
    payloadFromWire .raw y (zeroPayload .raw) = .ok (.bytes (nonEmpty y)) := by
  cases y with
  | none => rfl
  | some l => cases l <;> rfl

theorem default_bucket_short (a : Int) : (encode (.map [(Cbor.ofInt 1, Cbor.ofInt a)])).length < two64 := by
  have h9 := encode_ofInt_length_le a
  have h1 := head_shortest 5 1
  have h2 := head_shortest 0 1
  simp only [Nat.reduceLT, if_true] at h1 h2
  have e1 : Cbor.ofInt 1 = .uint 1 := rfl
  rw [e1]
  -- one head octet for the map, one for the label, then the algorithm: at most 2 + 9 octets
  simp [encode, encodePairs, flattenPairs, h1, h2, two64]; omega

/-- the default protected bucket that `WithSign` / `Compute` / `Encrypt` fill in for a key — `{1: alg}`, or the empty
    bucket when the key names no algorithm: its octets are few, and a decoder makes of them a map that passes the algorithm
    check of any key of that algorithm -/
theorem default_bucket {key : KeyView} (har : -2147483648 ≤ key.alg ∧ key.alg ≤ 2147483647)
    {prot : CMap} {pb : Bytes} (hfp : fillProtected none key = .ok prot) (hpb : hdrBytes (some prot) = .ok pb) :
    ∃ pm, pb.length < two64 ∧ hdrFromBytes (some pb) = .ok pm ∧ algMismatch pm key.alg = false := by
  cases hfp
  by_cases ha : key.alg = 0
  · rw [if_neg (by simpa using ha)] at hpb
    cases hpb
    exact ⟨[], by simp [two64], rfl, rfl⟩
  · rw [if_pos (by simpa using ha)] at hpb
    obtain rfl := Res.ok.inj ((default_bucket_bytes key.alg).symm.trans hpb)
    obtain ⟨pm, hpm, hmm⟩ := default_bucket_roundtrip key.alg har
    exact ⟨pm, default_bucket_short key.alg, hpm, hmm⟩

theorem produceAuth_default {m m1 : Msg} {key : KeyView} {auth : Bytes → Res Bytes} {ext : Option Bytes}
    (hm : m.prot = none) (har : -2147483648 ≤ key.alg ∧ key.alg ≤ 2147483647)
    (h : produceAuth m key auth ext = .ok m1) {w : Wire} (hw : m1.mm = some w) :
    ∃ pm, (∀ x, w.prot = some x → x.length < two64) ∧ hdrFromBytes w.prot = .ok pm ∧ algMismatch pm key.alg = false ∧
      payloadToWire m.payload = .ok w.payload ∧ w.unprot = some (fillUnprotected m.unprot key) := by
  obtain ⟨_, pb, _, _, _, hfp, hpb, hyw, -, -, rfl⟩ := produceAuth_ok h
  cases hw
  obtain ⟨pm, hpbl, hpm, hmm⟩ := default_bucket har (hm ▸ hfp) hpb
  exact ⟨pm, fun x hx => by cases hx; exact hpbl, hpm, hmm, hyw, rfl⟩

/-- **verifying what was produced**: a decoded message whose wire struct keeps the produced protected bytes, payload and
    signature / tag, and whose protected map passes the verifier's algorithm check, verifies under any `check` that accepts
    what `auth` makes (`decrypt_produced` is the counterpart for the encryption kinds) -/
theorem verify_produced {m m1 m2 : Msg} {key vkey : KeyView} {auth : Bytes → Res Bytes} {check : Bytes → Bytes → Res Unit}
    {ext : Option Bytes} {w w2 : Wire} (hcorr : SigCorrect auth check) (h : produceAuth m key auth ext = .ok m1)
    (hw : m1.mm = some w) (hm2 : m2.mm = some w2) (hk : m2.kind = m.kind) (hp : w2.prot = w.prot)
    (hy : w2.payload = w.payload) (ha : w2.auth = w.auth) (hmm : algMismatch (m2.prot.getD []) vkey.alg = false) :
    verifyAuth m2 vkey check ext = .ok () := by
  obtain ⟨_, pb, yb, tb, sig, -, -, -, htb, hsig, rfl⟩ := produceAuth_ok h
  cases hw
  exact (verifyAuth_eq hm2 ha hmm (hk ▸ (tobe_congr hp hy m.kind none ext).trans htb) check).trans (hcorr tb sig hsig)

/-- **the round trip of the four-member kinds, in general**: whatever protected map the message carries (none: the
    default bucket; or the caller's own), if the protected octets decode to a map `pm` that passes the verifying key's
    algorithm check, the payload's wire form is read back as `pv'`, and the unprotected bucket is seen by the decoder
    as `u'` — then the produced message is decoded to exactly these and verifies. -/
theorem auth4_roundtrip_core {m m1 : Msg} {key vkey : KeyView} {auth : Bytes → Res Bytes} {check : Bytes → Bytes → Res Unit}
    {ext : Option Bytes} {w : Wire} (hk : m.kind = .sign1 ∨ m.kind = .mac0) (mode : PMode) (hcorr : SigCorrect auth check)
    (h : produceAuth m key auth ext = .ok m1) (hw : m1.mm = some w)
    (hp : ∀ x, w.prot = some x → x.length < two64)
    {pm : CMap} (hpm : hdrFromBytes w.prot = .ok pm) (hmm : algMismatch pm vkey.alg = false)
    {pv' : PVal} (hpf : payloadFromWire mode w.payload (zeroPayload mode) = .ok pv')
    {u' : Cbor} {uh : Hdr} (hu : HdrEnc w.unprot u' uh)
    (hpl : ∀ x, w.payload = some x → x.length < two64) (hsl : ∀ x, w.auth = some x → x.length < two64) :
    ∃ bytes, marshal m.kind w = some bytes ∧
      unmarshal m.kind mode bytes = .ok ⟨m.kind, some pm, uh, pv', some ⟨w.prot, uh, w.payload, w.auth, none, none⟩⟩ ∧
      verifyAuth ⟨m.kind, some pm, uh, pv', some ⟨w.prot, uh, w.payload, w.auth, none, none⟩⟩ vkey check ext = .ok () := by
  obtain ⟨bytes, hmar, hun⟩ := auth4_decode m.kind hk mode w hu hp hpl hsl hpm hpf
  exact ⟨bytes, hmar, hun, verify_produced hcorr h hw rfl rfl rfl rfl rfl hmm⟩

/-- **COSE_Sign1 / COSE_Mac0 produced with default headers are accepted back** (tagged form): the decoder
    returns the very protected bytes, payload bytes and signature/tag that were produced, the payload field holds
    the original bytes, and verification succeeds with any `check` that accepts what `auth` makes. -/
theorem auth4_roundtrip (k : Kind) (hk : k = .sign1 ∨ k = .mac0) (payload ext : Option Bytes) (unprot : Hdr)
    (key vkey : KeyView) (auth : Bytes → Res Bytes) (check : Bytes → Bytes → Res Unit)
    (hcorr : SigCorrect auth check) (hvk : vkey.alg = key.alg) (ha : key.alg ≠ 0)
    (har : -2147483648 ≤ key.alg ∧ key.alg ≤ 2147483647)
    (m1 : Msg) (h : produceAuth ⟨k, none, unprot, .bytes payload, none⟩ key auth ext = .ok m1)
    (w : Wire) (hw : m1.mm = some w) (u : Cbor) (hu : hdrCbor w.unprot = some u)
    (u' : Cbor) (heq : encode u' = encode u) (huw : WF u')
    (hud : depth u' + 2 < maxNesting) (uh : Hdr) (huf : hdrField u' = .ok uh)
    (hpl : ∀ x, payload = some x → x.length < two64) (hsl : ∀ x, w.auth = some x → x.length < two64) :
    ∃ bytes m2 w2, marshal k w = some bytes ∧ unmarshal k .raw bytes = .ok m2 ∧ m2.mm = some w2 ∧
      w2.prot = w.prot ∧ w2.payload = payload ∧ w2.auth = w.auth ∧
      m2.payload = .bytes (nonEmpty payload) ∧
      verifyAuth m2 vkey check ext = .ok () ∧ m2.unprot = uh := by
  obtain ⟨pm, hp, hpm, hmm, hyw, -⟩ := produceAuth_default rfl har h hw
  obtain rfl : payload = w.payload := Res.ok.inj hyw
  obtain ⟨bytes, h1, h2, h3⟩ := auth4_roundtrip_core hk .raw hcorr h hw hp hpm (hvk ▸ hmm) (payloadFromWire_raw _)
    ⟨⟨u, hu, heq⟩, huw, hud, huf⟩ hpl hsl
  exact ⟨bytes, _, _, h1, h2, rfl, rfl, rfl, rfl, rfl, h3, rfl⟩

/-- the default protected bucket, any payload kind (its wire form `payload`, read back as `pv'` in `mode`), the unprotected
    map in any entry order: the statement that `auth4_roundtrip_any_order`, `_typed` and `C01Prot.auth4_roundtrip_named`
    instantiate -/
theorem auth4_roundtrip_any_order_gen {k : Kind} (hk : k = .sign1 ∨ k = .mac0) {pv pv' : PVal} {mode : PMode}
    {payload ext : Option Bytes} {unprot : Hdr}
    {key vkey : KeyView} {auth : Bytes → Res Bytes} {check : Bytes → Bytes → Res Unit}
    (hcorr : SigCorrect auth check) (hvk : vkey.alg = key.alg)
    (har : -2147483648 ≤ key.alg ∧ key.alg ≤ 2147483647)
    (hpw : payloadToWire pv = .ok payload) (hpf : payloadFromWire mode payload (zeroPayload mode) = .ok pv')
    {m1 : Msg} (h : produceAuth ⟨k, none, unprot, pv, none⟩ key auth ext = .ok m1)
    {w : Wire} (hw : m1.mm = some w)
    (hok : ∀ kv ∈ fillUnprotected unprot key, EntryOk kv)
    (hnd : ((fillUnprotected unprot key).map (·.1)).Nodup)
    (hlen : (fillUnprotected unprot key).length ≤ maxElems)
    (hpl : ∀ x, payload = some x → x.length < two64) (hsl : ∀ x, w.auth = some x → x.length < two64) :
    ∃ bytes m2 w2 uh, marshal k w = some bytes ∧ unmarshal k mode bytes = .ok m2 ∧ m2.mm = some w2 ∧
      w2.prot = w.prot ∧ w2.payload = payload ∧ w2.auth = w.auth ∧
      m2.payload = pv' ∧
      verifyAuth m2 vkey check ext = .ok () ∧ m2.unprot = some uh ∧
      ∀ l, uh.lookup l = ((fillUnprotected unprot key).lookup l).map normV := by
  obtain ⟨pm, hp, hpm, hmm, hyw, hwu⟩ := produceAuth_default rfl har h hw
  obtain rfl : payload = w.payload := Res.ok.inj (hpw.symm.trans hyw)
  obtain ⟨u', uh, hu, hlook⟩ := hdr_any_order _ hok hnd hlen
  obtain ⟨bytes, h1, h2, h3⟩ := auth4_roundtrip_core hk mode hcorr h hw hp hpm (hvk ▸ hmm) hpf (hwu ▸ hu) hpl hsl
  exact ⟨bytes, _, _, uh, h1, h2, rfl, rfl, rfl, rfl, rfl, h3, rfl, hlook⟩

/-- **COSE_Sign1 / COSE_Mac0 round trip, any unprotected header map**: for every payload, external data, key and
    every unprotected map (after the library added the kid) with distinct in-range labels and scalar / list values —
    *in whatever order a Go map presents its entries* — the produced message is decoded back with byte-identical
    protected bucket, payload and signature / tag, verifies, and its unprotected map answers every look-up with the
    decoded form of the original value. -/
theorem auth4_roundtrip_any_order (k : Kind) (hk : k = .sign1 ∨ k = .mac0) (payload ext : Option Bytes) (unprot : Hdr)
    (key vkey : KeyView) (auth : Bytes → Res Bytes) (check : Bytes → Bytes → Res Unit)
    (hcorr : SigCorrect auth check) (hvk : vkey.alg = key.alg) (ha : key.alg ≠ 0)
    (har : -2147483648 ≤ key.alg ∧ key.alg ≤ 2147483647)
    (m1 : Msg) (h : produceAuth ⟨k, none, unprot, .bytes payload, none⟩ key auth ext = .ok m1)
    (w : Wire) (hw : m1.mm = some w)
    (hok : ∀ kv ∈ fillUnprotected unprot key, EntryOk kv)
    (hnd : ((fillUnprotected unprot key).map (·.1)).Nodup)
    (hlen : (fillUnprotected unprot key).length ≤ maxElems)
    (hpl : ∀ x, payload = some x → x.length < two64) (hsl : ∀ x, w.auth = some x → x.length < two64) :
    ∃ bytes m2 w2 uh, marshal k w = some bytes ∧ unmarshal k .raw bytes = .ok m2 ∧ m2.mm = some w2 ∧
      w2.prot = w.prot ∧ w2.payload = payload ∧ w2.auth = w.auth ∧
      m2.payload = .bytes (nonEmpty payload) ∧
      verifyAuth m2 vkey check ext = .ok () ∧ m2.unprot = some uh ∧
      ∀ l, uh.lookup l = ((fillUnprotected unprot key).lookup l).map normV := by
  exact auth4_roundtrip_any_order_gen hk hcorr hvk har rfl (payloadFromWire_raw payload) h hw hok hnd hlen hpl hsl

/-- **typed payloads** (a claims map, a key, any label map with scalar / list values): the produced COSE_Sign1 /
    COSE_Mac0 decodes in typed mode, verifies, and the decoded payload answers every look-up with the decoded form of
    the original value — e.g. a CWT's claims come back with the same exp / nbf / iat / iss / aud / cti. -/
theorem auth4_roundtrip_typed (k : Kind) (hk : k = .sign1 ∨ k = .mac0) (pmap : CMap) (ext : Option Bytes) (unprot : Hdr)
    (key vkey : KeyView) (auth : Bytes → Res Bytes) (check : Bytes → Bytes → Res Unit)
    (hcorr : SigCorrect auth check) (hvk : vkey.alg = key.alg) (ha : key.alg ≠ 0)
    (har : -2147483648 ≤ key.alg ∧ key.alg ≤ 2147483647)
    (hokp : ∀ kv ∈ pmap, EntryOk kv) (hndp : (pmap.map (·.1)).Nodup) (hlenp : pmap.length ≤ maxElems)
    (m1 : Msg) (h : produceAuth ⟨k, none, unprot, .typed (some pmap), none⟩ key auth ext = .ok m1)
    (w : Wire) (hw : m1.mm = some w)
    (hok : ∀ kv ∈ fillUnprotected unprot key, EntryOk kv)
    (hnd : ((fillUnprotected unprot key).map (·.1)).Nodup)
    (hlen : (fillUnprotected unprot key).length ≤ maxElems)
    (hpl : ∀ x, encodeCMap pmap = some x → x.length < two64) (hsl : ∀ x, w.auth = some x → x.length < two64) :
    ∃ bytes m2 pm' uh, marshal k w = some bytes ∧ unmarshal k .typed bytes = .ok m2 ∧
      m2.payload = .typed (some pm') ∧ (∀ l, pm'.lookup l = (pmap.lookup l).map normV) ∧ pm'.length = pmap.length ∧
      verifyAuth m2 vkey check ext = .ok () ∧ m2.unprot = some uh ∧
      ∀ l, uh.lookup l = ((fillUnprotected unprot key).lookup l).map normV := by
  obtain ⟨b, pm', henc, hdec, hl, hlook⟩ := cmap_roundtrip pmap hokp hndp hlenp
  have hpw : payloadToWire (.typed (some pmap)) = .ok (some b) := by simp only [payloadToWire, henc]
  have hpf : payloadFromWire .typed (some b) (zeroPayload .typed) = .ok (.typed (some pm')) := by
    cases b with
    | nil => exact absurd rfl (encodeCMap_ne_nil henc)
    | cons x r => simp only [payloadFromWire, hdec]
  obtain ⟨bytes, m2, w2, uh, h1, h2, _, _, _, _, h7, h8, h9, h10⟩ :=
    auth4_roundtrip_any_order_gen hk hcorr hvk har hpw hpf h hw hok hnd hlen (fun x hx => hpl x (by cases hx; exact henc)) hsl
  exact ⟨bytes, m2, pm', uh, h1, h2, h7, hlook, hl, h8, h9, h10⟩

end Cose.Props.C01
