import Cose.Gen.Tables
/-!
# C05 — regenerated tie: the algorithm comparison is unconditional in every entry point of the current source

`Gen.Tables.conds` (rewritten from `/repo` on every run) lists the `if` / `switch` / `case` conditions of every function in
source order.  The model's `algMismatch` check (`Props/C05.lean`) is the first thing every consuming entry point does
after the "was it decoded" guard, and the first thing every producing entry point does after the defaults — under no
other condition (no cache flag, no "only when it parses", no "only when the key has an alg").  Only the *leading*
conditions are pinned: what follows (nonce selection, payload decoding) belongs to other properties.
A change that puts the comparison under a new condition, drops it or moves it behind other work makes this fail to
build; the correspondence ops (`msg.consume` with keys of other algorithms, `msg.otherkey`) then look for the input.
-/
namespace Cose.Props.C05Shape

def condsOf (f : String) : Option (List String) := (Cose.Gen.Tables.conds.find? (fun r => r.1 == f)).map (·.2)
def leading (n : Nat) (f : String) : Option (List String) := (condsOf f).map (·.take n)

/-- the three `Verify` have no condition after these (`condsOf … = leading 3 …`); the two `Decrypt` go on to the nonce
    and the payload -/
theorem alg_check_first_on_consume :
    leading 3 "cose.Sign1Message.Verify" = some ["if m.mm == nil || m.mm.Signature == nil",
      "if m.Protected.Has(iana.HeaderParameterAlg)", "if alg != int(verifier.Key().Alg())"] ∧
    condsOf "cose.Sign1Message.Verify" = leading 3 "cose.Sign1Message.Verify" ∧
    leading 3 "cose.Mac0Message.Verify" = some ["if m.mm == nil || m.mm.Tag == nil",
      "if m.Protected.Has(iana.HeaderParameterAlg)", "if alg != int(macer.Key().Alg())"] ∧
    condsOf "cose.Mac0Message.Verify" = leading 3 "cose.Mac0Message.Verify" ∧
    leading 3 "cose.MacMessage.Verify" = some ["if m.mm == nil || m.mm.Tag == nil",
      "if m.Protected.Has(iana.HeaderParameterAlg)", "if alg != int(macer.Key().Alg())"] ∧
    condsOf "cose.MacMessage.Verify" = leading 3 "cose.MacMessage.Verify" ∧
    leading 3 "cose.Encrypt0Message.Decrypt" = some ["if m.mm == nil || m.mm.Ciphertext == nil",
      "if m.Protected.Has(iana.HeaderParameterAlg)", "if alg != int(encryptor.Key().Alg())"] ∧
    leading 3 "cose.EncryptMessage.Decrypt" = some ["if m.mm == nil || m.mm.Ciphertext == nil",
      "if m.Protected.Has(iana.HeaderParameterAlg)", "if alg != int(encryptor.Key().Alg())"] := by
  decide +kernel

/-- COSE_Sign: the check is made per signature, after the verifier look-up, on the signature's own bucket -/
theorem alg_check_per_signature :
    leading 6 "cose.SignMessage.Verify" = some ["if len(verifiers) == 0", "if m.mm == nil || m.mm.Signatures == nil",
      "if len(m.mm.Signatures) == 0", "if verifier == nil", "if sig.Protected.Has(iana.HeaderParameterAlg)",
      "if alg != int(verifier.Key().Alg())"] := by
  decide +kernel

theorem alg_check_first_on_produce :
    leading 4 "cose.Sign1Message.WithSign" = some ["if m.Protected == nil", "if alg != iana.AlgorithmReserved",
      "if m.Protected.Has(iana.HeaderParameterAlg)", "if alg != int(signer.Key().Alg())"] ∧
    leading 4 "cose.Mac0Message.Compute" = some ["if m.Protected == nil", "if alg != iana.AlgorithmReserved",
      "if m.Protected.Has(iana.HeaderParameterAlg)", "if alg != int(macer.Key().Alg())"] ∧
    leading 4 "cose.MacMessage.Compute" = some ["if m.Protected == nil", "if alg != iana.AlgorithmReserved",
      "if m.Protected.Has(iana.HeaderParameterAlg)", "if alg != int(macer.Key().Alg())"] ∧
    leading 4 "cose.Encrypt0Message.Encrypt" = some ["if m.Protected == nil", "if alg != iana.AlgorithmReserved",
      "if m.Protected.Has(iana.HeaderParameterAlg)", "if alg != int(encryptor.Key().Alg())"] ∧
    leading 4 "cose.EncryptMessage.Encrypt" = some ["if m.Protected == nil", "if alg != iana.AlgorithmReserved",
      "if m.Protected.Has(iana.HeaderParameterAlg)", "if alg != int(encryptor.Key().Alg())"] := by
  decide +kernel

end Cose.Props.C05Shape
