import Cose.Props.C01
import Cose.Props.Lists
/-!
# C01 — COSE_Mac with recipients is accepted back

Also the recipient list on the wire (`RecipEnc`, `recips_list`), what the decoder makes of a marshalled COSE_Mac and
COSE_Encrypt with recipients (`mac_decode`, `encR_decode`: used by `C01EncR.lean` and `C09All.lean`), and the usual
"direct" recipient as the witness that the hypotheses can be met.
-/
namespace Cose.Props.C01Mac
open Cose.Msg Cose.Go Cose.Cbor Cose.Gen Cose.Props.C01

/-- a recipient as it goes on the wire (a three-member array, i.e. no nested recipients) and as it comes back; the depth
    bound is what such an item has, anything that leaves the message below `maxNesting` would do -/
structure RecipEnc (r : Recip) (c : Cbor) (r' : Recip) : Prop where
  cbor : recipCbor r = some c
  three : ∃ p u ct, c = .arr [p, u, ct]
  wf : WF c
  dep : depth c ≤ 3
  field : recipField c = .ok r'

/-- the head octet of a three-member array is `83`, which the dispatch takes for a recipient without looking further -/
theorem first_byte_three (p u ct : Cbor) : recipFirstBytesOk (encode (.arr [p, u, ct])) = true := rfl

/-- a list of recipients, item by item: the array emitted, what passes the first-octet dispatch, what is decoded -/
theorem recips_list {rs : List Recip} {cs : List Cbor} {rs' : List Recip} (h : All3 RecipEnc rs cs rs') :
    rs.mapM recipCbor = some cs ∧ cs.length = rs.length ∧ WFList cs ∧ depthList cs ≤ 3 ∧ decSeq recipField cs = .ok rs' ∧
      (cs.map encode).all recipFirstBytesOk = true ∧ rs'.isEmpty = rs.isEmpty := by
  induction h with
  | nil => exact ⟨rfl, rfl, trivial, by simp [depthList], rfl, rfl, rfl⟩
  | @cons r c r' _ _ _ he _ ih =>
    obtain ⟨h1, h2, h3, h4, h5, h6, -⟩ := ih
    obtain ⟨p, u, ct, hc⟩ := he.three
    refine ⟨?_, by simp [h2], ⟨he.wf, h3⟩, ?_, ?_, ?_, rfl⟩
    · simp only [List.mapM_cons, he.cbor, h1]; rfl
    · simp only [depthList]; have := he.dep; omega
    · simp only [decSeq, he.field, h5]
    · simp only [List.map_cons, List.all_cons, h6, Bool.and_true]
      rw [hc]; exact first_byte_three p u ct

theorem mac_decode (mode : PMode) (w : Wire) {u' : Cbor} {uh : Hdr} (hu : HdrEnc w.unprot u' uh)
    (hp : ∀ x, w.prot = some x → x.length < two64) (hy : ∀ x, w.payload = some x → x.length < two64)
    (ha : ∀ x, w.auth = some x → x.length < two64)
    {rs : List Recip} {cs : List Cbor} {rs' : List Recip} (hr : w.recips = some rs) (hrs : All3 RecipEnc rs cs rs')
    (hne : rs ≠ []) (hrl : rs.length ≤ maxElems) {pm : CMap} (hpm : hdrFromBytes w.prot = .ok pm)
    {pv : PVal} (hpv : payloadFromWire mode w.payload (zeroPayload mode) = .ok pv) :
    ∃ bytes, marshal .mac w = some bytes ∧ unmarshal .mac mode bytes =
      .ok ⟨.mac, some pm, uh, pv, some ⟨w.prot, uh, w.payload, w.auth, none, some rs'⟩⟩ := by
  obtain ⟨hcs, hlen, hwfl, hdepth, hdec, hfirst, hemp⟩ := recips_list hrs
  have hwfcs : WF (.arr cs) := ⟨hlen ▸ hrl, hwfl⟩
  exact marshal_unmarshal .mac mode hu hp hy (tail := [bytesCbor w.auth, .arr cs])
    (w' := ⟨w.prot, uh, w.payload, w.auth, none, some rs'⟩) (fun u hu1 => by simp [wireCbor, hu1, hr, hcs])
    ⟨wf_bytesCbor _ ha, hwfcs, trivial⟩ (by simp only [depth, depthList, depth_bytesCbor, maxNesting]; omega) (by simp)
    (by simp only [wireOfCbor, untag_arr, bytesField_bytesCbor, hu.field, hdec])
    (.inr ⟨cs, rfl, hwfcs, hfirst, hemp.trans (List.isEmpty_eq_false_iff.mpr hne)⟩) hpm hpv

theorem encR_decode (mode : PMode) (w : Wire) {u' : Cbor} {uh : Hdr} (hu : HdrEnc w.unprot u' uh)
    (hp : ∀ x, w.prot = some x → x.length < two64) (hy : ∀ x, w.payload = some x → x.length < two64)
    {rs : List Recip} {cs : List Cbor} {rs' : List Recip} (hr : w.recips = some rs) (hrs : All3 RecipEnc rs cs rs')
    (hne : rs ≠ []) (hrl : rs.length ≤ maxElems) {pm : CMap} (hpm : hdrFromBytes w.prot = .ok pm) :
    ∃ bytes, marshal .encrypt w = some bytes ∧ unmarshal .encrypt mode bytes =
      .ok ⟨.encrypt, some pm, uh, zeroPayload mode, some ⟨w.prot, uh, w.payload, none, none, some rs'⟩⟩ := by
  obtain ⟨hcs, hlen, hwfl, hdepth, hdec, hfirst, hemp⟩ := recips_list hrs
  have hwfcs : WF (.arr cs) := ⟨hlen ▸ hrl, hwfl⟩
  exact marshal_unmarshal .encrypt mode hu hp hy (tail := [.arr cs]) (w' := ⟨w.prot, uh, w.payload, none, none, some rs'⟩)
    (fun u hu1 => by simp [wireCbor, hu1, hr, hcs])
    ⟨hwfcs, trivial⟩ (by simp only [depth, depthList, maxNesting]; omega) (by simp)
    (by simp only [wireOfCbor, untag_arr, bytesField_bytesCbor, hu.field, hdec])
    (.inr ⟨cs, rfl, hwfcs, hfirst, hemp.trans (List.isEmpty_eq_false_iff.mpr hne)⟩) hpm rfl

/-- **COSE_Mac with recipients, produced with default headers, is accepted back** (tagged form): the decoder returns
    the protected bytes, payload and tag that were produced and one recipient per recipient given (as its own wire
    form decodes), the payload field holds the original value, and verification succeeds with any `check` that
    accepts what `auth` makes. -/
theorem mac_roundtrip (pv pv' : PVal) (mode : PMode) (payload ext : Option Bytes) (unprot : Hdr)
    (key vkey : KeyView) (auth : Bytes → Res Bytes) (check : Bytes → Bytes → Res Unit)
    (hcorr : SigCorrect auth check) (hvk : vkey.alg = key.alg) (ha : key.alg ≠ 0)
    (har : -2147483648 ≤ key.alg ∧ key.alg ≤ 2147483647)
    (hpw : payloadToWire pv = .ok payload) (hpf : payloadFromWire mode payload (zeroPayload mode) = .ok pv')
    (m1 : Msg) (h : produceAuth ⟨.mac, none, unprot, pv, none⟩ key auth ext = .ok m1)
    (w : Wire) (hw : m1.mm = some w) (u : Cbor) (hu : hdrCbor w.unprot = some u)
    (u' : Cbor) (heq : encode u' = encode u) (huw : WF u')
    (hud : depth u' + 2 < maxNesting) (uh : Hdr) (huf : hdrField u' = .ok uh)
    (rs : List Recip) (cs : List Cbor) (rs' : List Recip) (hrs : All3 RecipEnc rs cs rs') (hne : rs ≠ [])
    (hrl : rs.length ≤ maxElems)
    (hpl : ∀ x, payload = some x → x.length < two64) (hsl : ∀ x, w.auth = some x → x.length < two64) :
    ∃ bytes m2 w2, marshal .mac { w with recips := some rs } = some bytes ∧ unmarshal .mac mode bytes = .ok m2 ∧
      m2.mm = some w2 ∧ w2.prot = w.prot ∧ w2.payload = payload ∧ w2.auth = w.auth ∧ w2.recips = some rs' ∧
      m2.payload = pv' ∧ verifyAuth m2 vkey check ext = .ok () ∧ m2.unprot = uh := by
  obtain ⟨pm, hp, hpm, hmm, hyw, -⟩ := produceAuth_default rfl har h hw
  obtain rfl : payload = w.payload := Res.ok.inj (hpw.symm.trans hyw)
  obtain ⟨bytes, hmar, hun⟩ := mac_decode mode { w with recips := some rs } ⟨⟨u, hu, heq⟩, huw, hud, huf⟩ hp hpl hsl rfl hrs
    hne hrl hpm hpf
  exact ⟨_, _, _, hmar, hun, rfl, rfl, rfl, rfl, rfl, rfl, verify_produced hcorr h hw rfl rfl rfl rfl rfl (hvk ▸ hmm), rfl⟩

/-! ### non-vacuity: the usual "direct" recipient `[h'', {1: -6, 4: kid}, h'']` -/

def directRecip (kid : Bytes) : Recip := ⟨⟨[], some [(.int 1, .int .int (-6)), (.int 4, .bstr kid)], some []⟩, []⟩
def directCbor (kid : Bytes) : Cbor := .arr [.bstr [], .map [(.uint 1, .nint 5), (.uint 4, .bstr kid)], .bstr []]
def directBack (kid : Bytes) : Recip := ⟨⟨[], some [(.int 1, .int .i64 (-6)), (.int 4, .bytes kid)], some []⟩, []⟩

theorem direct_recipient (kid : Bytes) (hk : kid.length < two64) :
    RecipEnc (directRecip kid) (directCbor kid) (directBack kid) where
  cbor := by
    simp [directRecip, directCbor, recipCbor, hdrBytes, hdrCbor, CMap.toCbor, cmapPairs, toCbor, Label.toCbor, Cbor.ofInt, bytesCbor]
  three := ⟨_, _, _, rfl⟩
  wf := by
    have hs : bytesLt (encode (.uint 1)) (encode (.uint 4)) = true := by decide
    simpa [directCbor, WF, WFList, WFPairs, KeysSorted, encodePairs, maxElems, hashableKey, two64, hs] using hk
  dep := by simp [directCbor, depth, depthList, depthPairs]
  field := by
    simp [directCbor, directBack, recipField, recip0Field, bytesField, hdrField, untag, ofCborPairs, ofCbor, cmapOfPairs,
      checkKey, maxInt32, hdrFromBytes]

example : All3 RecipEnc [directRecip [1], directRecip [2, 2]] [directCbor [1], directCbor [2, 2]] [directBack [1], directBack [2, 2]] :=
  .cons (direct_recipient _ (by simp [two64])) (.cons (direct_recipient _ (by simp [two64])) .nil)

end Cose.Props.C01Mac
