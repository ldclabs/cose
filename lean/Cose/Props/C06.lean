import Cose.Msg.Ops
import Cose.Go.Lemmas
import Cose.Props.C19
import Cose.Crypto.ConstructionLemmas
/-!
# C06 — AEAD nonces are well-formed, derived per RFC 9052, published, and fresh

Model: `Cose.Msg.selectNonce` (the IV / Partial IV / Base IV logic shared by `Encrypt` and `Decrypt`), `xorIV`
(with its slice-bounds panic modelled), `produceEnc`.  What cannot be a theorem — that `crypto/rand` does not
repeat — is replaced by the structural statement that each encryption of a fresh message consumes its own
block of the random stream, whole and unmodified (`fresh_draws_are_consecutive_blocks`).
-/
namespace Cose.Props.C06
open Cose.Msg Cose.Go Cose.Gen

/-- RFC 9052 §3.1: context IV ⊕ left-zero-padded Partial IV -/
def specContextIv (base piv : Bytes) (n : Nat) : Bytes :=
  List.zipWith (· ^^^ ·) (List.replicate (n - piv.length) 0 ++ piv) (base ++ List.replicate (n - base.length) 0)

def ivOf (u : CMap) : Res (Option Bytes) := getBytes (u.lookup (Msg.lbl Iana.HeaderParameterIV))
def pivOf (u : CMap) : Res (Option Bytes) := getBytes (u.lookup (Msg.lbl Iana.HeaderParameterPartialIV))

theorem iv_verbatim (u : CMap) (key : KeyView) (n : Nat) (iv : Bytes) (piv : Option Bytes)
    (hi : ivOf u = .ok (some iv)) (hp : pivOf u = .ok piv) (hpe : (piv.getD []).length = 0) (hne : iv ≠ []) :
    ∃ c, selectNonce u key n = .ok c ∧ c = .given iv := by
  rw [selectNonce_eq hi hp]
  have : ¬ ((piv.getD []).length > 0) := by omega
  simp [nonceFor, this, hne]

theorem iv_and_piv_refused (u : CMap) (key : KeyView) (n : Nat) (iv piv : Bytes)
    (hi : ivOf u = .ok (some iv)) (hp : pivOf u = .ok (some piv)) (h1 : iv ≠ []) (h2 : piv ≠ []) :
    selectNonce u key n = .err "iv-and-partial-iv" := by
  rw [selectNonce_eq hi hp]
  simp [nonceFor, List.length_pos_iff.mpr h1, List.length_pos_iff.mpr h2]

theorem piv_too_long_refused (u : CMap) (key : KeyView) (n : Nat) (iv : Option Bytes) (piv : Bytes)
    (hi : ivOf u = .ok iv) (hie : (iv.getD []).length = 0) (hp : pivOf u = .ok (some piv))
    (hl : piv.length ≥ n) (hne : piv ≠ []) : selectNonce u key n = .err "partial-iv-too-long" := by
  rw [selectNonce_eq hi hp]
  have b : piv.length > 0 := List.length_pos_iff.mpr hne
  have c : ¬ ((iv.getD []).length > 0) := by omega
  simp only [nonceFor, Option.getD_some, b, c, hl, if_true, if_false]

theorem missing_base_refused (u : CMap) (key : KeyView) (n : Nat) (iv : Option Bytes) (piv : Bytes) (b : Option Bytes)
    (hi : ivOf u = .ok iv) (hie : (iv.getD []).length = 0) (hp : pivOf u = .ok (some piv))
    (hl : piv.length < n) (hne : piv ≠ []) (hb : key.baseIV = .ok b) (hbe : (b.getD []) = []) :
    selectNonce u key n = .err "base-iv-missing" := by
  rw [selectNonce_eq hi hp]
  have p : piv.length > 0 := List.length_pos_iff.mpr hne
  have c : ¬ ((iv.getD []).length > 0) := by omega
  have d : ¬ (piv.length ≥ n) := by omega
  simp only [nonceFor, Option.getD_some, p, c, d, hb, hbe, if_true, if_false, List.isEmpty_nil]

/-- **the xor is RFC 9052's, for a Base IV of any length**: a shorter one counts as zero-extended on the right, of a longer
    one only the first `n` octets count — the Partial IV lands in the low-order octets *of the nonce*, none of it is cut
    off -/
theorem piv_xor_eq_spec_any_base (base piv : Bytes) (n : Nat) (hp : piv.length ≤ n) :
    xorIV base piv n = .ok (specContextIv base piv n) := by
  unfold xorIV specContextIv
  have : ¬ piv.length > n := by omega
  simp only [this, if_false, Res.ok.injEq]
  apply List.ext_getElem
  · simp; omega
  · intro i h1 h2
    simp only [List.getElem_map, List.getElem_zipIdx, List.getElem_zipWith, Nat.zero_add]
    by_cases hi : i < base.length
    · simp [List.getElem?_eq_getElem hi, List.getElem_append_left hi]
    · have hge : base.length ≤ i := by omega
      rw [List.getElem?_eq_none hge, List.getElem_append_right hge]
      simp

/-- the case RFC 9052 describes, a Base IV of the nonce length; `hb` is not used (`piv_xor_eq_spec_any_base`) -/
theorem piv_xor_eq_spec (base piv : Bytes) (n : Nat) (hb : base.length = n) (hp : piv.length ≤ n) :
    xorIV base piv n = .ok (specContextIv base piv n) :=
  piv_xor_eq_spec_any_base base piv n hp

/-- the guard `len(partialIV) >= ivSize` is what keeps `iv[size-len(partialIV):]` in range:
    below it `xorIV` cannot panic -/
theorem xorIV_no_panic (base piv : Bytes) (n : Nat) (h : piv.length ≤ n) : ∃ out, xorIV base piv n = .ok out :=
  ⟨_, piv_xor_eq_spec_any_base base piv n h⟩

theorem xorIV_length {base piv out : Bytes} {n : Nat} (h : xorIV base piv n = .ok out) : out.length = n := by
  unfold xorIV at h
  split at h
  · cases h
  · rename_i hl
    simp only [Res.ok.injEq] at h
    rw [← h]; simp; omega

theorem nonceFor_never_panics {key : KeyView} (hk : key.baseIV.isPanic = false) (n : Nat) (ivb pivb : Bytes) :
    (nonceFor key n ivb pivb).isPanic = false := by
  unfold nonceFor
  refine Res.isPanic_ite (Res.isPanic_ite rfl ?_) (Res.isPanic_ite rfl rfl)
  split
  · rfl
  · generalize key.baseIV = rb at hk
    cases rb with
    | panic s => cases hk
    | err e => rfl
    | ok b =>
      refine Res.isPanic_ite rfl ?_
      obtain ⟨out, ho⟩ := xorIV_no_panic (b.getD []) pivb n (by omega)
      rw [ho]; rfl

theorem selectNonce_never_panics (u : CMap) (key : KeyView) (n : Nat) (hk : key.baseIV.isPanic = false) :
    (selectNonce u key n).isPanic = false := by
  have hi := getBytes_never_panics (u.lookup (Msg.lbl Iana.HeaderParameterIV))
  have hp := getBytes_never_panics (u.lookup (Msg.lbl Iana.HeaderParameterPartialIV))
  unfold selectNonce
  -- the five patterns: both members read (what follows is `nonceFor`), an error of either, a panic of either
  split
  · exact nonceFor_never_panics hk n _ _
  · rfl
  · rfl
  · rw [‹getBytes _ = Res.panic _›] at hi
    cases hi
  · rw [‹getBytes _ = Res.panic _›] at hp
    cases hp

theorem derived_nonce_length (u : CMap) (key : KeyView) (n : Nat) (iv : Bytes)
    (hp : ∃ p, pivOf u = .ok (some p) ∧ p ≠ []) (h : selectNonce u key n = .ok (.given iv)) : iv.length = n := by
  obtain ⟨p, hp1, hp2⟩ := hp
  obtain ⟨ivv, piv, hi, hp', h⟩ := selectNonce_ok h
  obtain rfl : some p = piv := Res.ok.inj (hp1.symm.trans hp')
  obtain ⟨b, hx⟩ := nonceFor_given_of_piv hp2 h
  exact xorIV_length hx

/-- xoring with `c` once more gives `a` and `a'` back (`xorBytes'` is `zipWith` of xor) -/
theorem zipWith_xor_injective {a a' c : Bytes} (ha : a.length ≤ c.length) (ha' : a'.length ≤ c.length)
    (h : List.zipWith (· ^^^ ·) a c = List.zipWith (· ^^^ ·) a' c) : a = a' :=
  (Crypto.xorBytes'_involutive a c ha).symm.trans
    ((congrArg (Crypto.xorBytes' · c) h).trans (Crypto.xorBytes'_involutive a' c ha'))

/-- two Partial IVs of one length that differ anywhere give different nonces, whatever the Base IV's length (no octet of
    them is dropped) -/
theorem piv_xor_injective (base piv piv' : Bytes) (n : Nat) (hl : piv.length = piv'.length) (hp : piv.length ≤ n)
    (h : xorIV base piv n = xorIV base piv' n) : piv = piv' := by
  rw [piv_xor_eq_spec_any_base base piv n hp, piv_xor_eq_spec_any_base base piv' n (hl ▸ hp)] at h
  simp only [Res.ok.injEq, specContextIv, ← hl] at h
  refine List.append_cancel_left (zipWith_xor_injective ?_ ?_ h)
  all_goals simp only [List.length_append, List.length_replicate]; omega

/-- **a random nonce is published**: when the caller gave neither IV nor Partial IV, the nonce handed to the AEAD
    is the drawn block `rnd`, and the unprotected IV header of the produced message holds exactly it -/
theorem random_nonce_published (m : Msg) (e : Encryptor) (ext : Option Bytes) (rnd : Bytes) (m' : Msg)
    (hr : selectNonce (fillUnprotected m.unprot e.key) e.key e.nonceSize = .ok .random)
    (h : produceEnc m e ext rnd = .ok m') :
    m'.unprot = some ((fillUnprotected m.unprot e.key).set (Msg.lbl Iana.HeaderParameterIV) (.bytes rnd)) := by
  obtain ⟨_, _, _, choice, _, _, -, -, -, hsel, -, -, rfl⟩ := produceEnc_ok h
  cases hr.symm.trans hsel
  rfl

/-- `key.GetRandomBytes(n)` against an explicit stream of random bytes -/
def draw (stream : Bytes) (n : Nat) : Bytes × Bytes := (stream.take n, stream.drop n)

/-- the nonces drawn for a sequence of fresh messages under one key of nonce size `n` -/
def drawMany : Bytes → Nat → Nat → List Bytes
  | _, _, 0 => []
  | stream, n, k + 1 => (draw stream n).1 :: drawMany (draw stream n).2 n k

/-- **the model's `draw` is what the source does** (regenerated fact): `GetRandomBytes` allocates the buffer and
    fills it with one `crypto/rand.Read` (whose error the library ignores: assumed not to fail, DESIGN §8) — nothing else:
    no buffering layer, pool, counter or package state (its footprint is empty), so the nonce is a whole,
    unmodified block of the operating system's random stream. -/
theorem random_source_is_crypto_rand :
    Footprints.randomCallees =
      [("key.GetRandomBytes", ["make", "crypto/rand.Read"]),
       ("key.GetRandomUint32", ["key.GetRandomBytes", "encoding/binary.bigEndian.Uint32"])]
    ∧ (Footprints.footprints.filter (fun m => m.1 == "key.GetRandomBytes" || m.1 == "key.GetRandomUint32")) = [] :=
  ⟨Cose.Props.C19.random_source_is_stateless, by decide +kernel⟩

/-- the i-th encryption uses exactly bytes [i·n, (i+1)·n) of the stream: no truncation, reuse or mixing,
    so two nonces coincide only if two disjoint blocks of `crypto/rand` output coincide -/
theorem fresh_draws_are_consecutive_blocks (stream : Bytes) (n k i : Nat) (hi : i < k) :
    (drawMany stream n k)[i]? = some ((stream.drop (i * n)).take n) := by
  induction k generalizing stream i with
  | zero => omega
  | succ k ih =>
    cases i with
    | zero => simp [drawMany, draw]
    | succ j =>
      simp only [drawMany, List.getElem?_cons_succ, draw]
      rw [ih (stream.drop n) j (by omega), List.drop_drop]
      rw [Nat.succ_mul, Nat.add_comm]

/-- **a Base IV alone is never a nonce**: with neither an IV nor a Partial IV in the message the library draws a
    fresh nonce — whatever the key holds as Base IV (absent, present, ill-typed) -/
theorem base_iv_alone_is_not_a_nonce (u : CMap) (key : KeyView) (n : Nat) (iv piv : Option Bytes)
    (hi : ivOf u = .ok iv) (hp : pivOf u = .ok piv) (hie : iv.getD [] = []) (hpe : piv.getD [] = []) :
    selectNonce u key n = .ok .random := by
  rw [selectNonce_eq hi hp]
  simp [nonceFor, hie, hpe]

/-- **the library draws a nonce only when the message gives none**: `random` is chosen only when IV and Partial IV are both
    absent or empty, so a caller's IV or Partial IV is not silently replaced -/
theorem random_only_without_iv (u : CMap) (key : KeyView) (n : Nat) (h : selectNonce u key n = .ok .random) :
    ∃ iv piv, ivOf u = .ok iv ∧ pivOf u = .ok piv ∧ iv.getD [] = [] ∧ piv.getD [] = [] := by
  obtain ⟨iv, piv, hi, hp, h⟩ := selectNonce_ok h
  exact ⟨iv, piv, hi, hp, nonceFor_random h⟩

example : specContextIv [1, 2, 3, 4] [0xff] 4 = [1, 2, 3, 0xfb] := by decide
example : xorIV [1, 2, 3, 4] [0xff] 4 = .ok [1, 2, 3, 0xfb] := by decide
example : xorIV [1, 2, 3, 4] [1, 2, 3, 4, 5] 4 = .panic "xorIV-slice" := by decide
-- a Base IV longer than the nonce: cut to the nonce size, the Partial IV in the nonce's last octet
example : xorIV [1, 2, 3, 4, 5, 6] [0xff] 4 = .ok [1, 2, 3, 0xfb] := by decide
example : xorIV [1, 2] [0xff] 4 = .ok [1, 2, 0, 0xff] := by decide

end Cose.Props.C06
