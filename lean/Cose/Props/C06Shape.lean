import Cose.Gen.Tables
/-!
# C06 — regenerated tie: the nonce selection of the four encryption entry points in the current source

Of the condition lists extracted from `/repo` (`Gen.Tables.conds`) only the conditions that speak about the IV, the
Partial IV or the Base IV are pinned, in their order — the rest of these functions (algorithm check, payload encoding)
belongs to other properties and may change without touching this obligation.  The model's `selectNonce`
(`Msg/Model.lean`; in `Props/C06.lean`: `iv_verbatim`, `iv_and_piv_refused`, `piv_too_long_refused`, `missing_base_refused`,
`random_only_without_iv`) mirrors exactly this sequence: Partial IV present? then IV must be absent, the Partial IV
shorter than the nonce, the Base IV present; producing side only: no IV at all → a fresh one.
-/
namespace Cose.Props.C06Shape

def condsOf (f : String) : List String := ((Cose.Gen.Tables.conds.find? (fun r => r.1 == f)).map (·.2)).getD []

def isInfix : List Char → List Char → Bool
  | [], _ => true
  | _ :: _, [] => false
  | p, c :: cs => p.isPrefixOf (c :: cs) || isInfix p cs

/-- conditions mentioning `iv` / `IV` (iv, partialIV, baseIV, ivSize) -/
def aboutIV (c : String) : Bool := isInfix "iv".toList c.toList || isInfix "IV".toList c.toList

def ivConds (f : String) : List String := (condsOf f).filter aboutIV

theorem nonce_selection_conditions :
    ivConds "cose.Encrypt0Message.Encrypt" = ["if len(partialIV) > 0", "if len(iv) > 0", "if len(partialIV) >= ivSize",
      "if len(baseIV) == 0", "if len(iv) == 0"] ∧
    ivConds "cose.EncryptMessage.Encrypt" = ["if len(partialIV) > 0", "if len(iv) > 0", "if len(partialIV) >= ivSize",
      "if len(baseIV) == 0", "if len(iv) == 0"] ∧
    ivConds "cose.Encrypt0Message.Decrypt" = ["if len(partialIV) > 0", "if len(iv) > 0", "if len(partialIV) >= ivSize",
      "if len(baseIV) == 0"] ∧
    ivConds "cose.EncryptMessage.Decrypt" = ["if len(partialIV) > 0", "if len(iv) > 0", "if len(partialIV) >= ivSize",
      "if len(baseIV) == 0"] := by
  decide +kernel

end Cose.Props.C06Shape
