import Cose.Gen.Tables
/-! # C12 — regenerated tie: the decisions of the AEAD wrappers (see the header of `PrimShapeMac.lean`) -/
namespace Cose.Props.PrimShapeAead

def condsOf (f : String) : Option (List String) := (Cose.Gen.Tables.conds.find? (fun r => r.1 == f)).map (·.2)

theorem aead_functions_conditions :
    condsOf "key_aesgcm.aesGCM.Encrypt" = some ["if !h.key.Ops().EmptyOrHas(iana.KeyOperationEncrypt)", "if len(iv) != nonceSize"] ∧
    condsOf "key_aesgcm.aesGCM.Decrypt" = some ["if !h.key.Ops().EmptyOrHas(iana.KeyOperationDecrypt)", "if len(iv) != nonceSize"] ∧
    condsOf "key_aesccm.aesCCM.Encrypt" = some ["if !h.key.Ops().EmptyOrHas(iana.KeyOperationEncrypt)", "if len(iv) != nonceSize",
      "if err != nil", "if len(plaintext) > aead.MaxLength()"] ∧
    condsOf "key_aesccm.aesCCM.Decrypt" = some ["if !h.key.Ops().EmptyOrHas(iana.KeyOperationDecrypt)", "if len(iv) != nonceSize",
      "if err != nil"] ∧
    condsOf "key_chacha20poly1305.chacha.Encrypt" = some ["if !h.key.Ops().EmptyOrHas(iana.KeyOperationEncrypt)",
      "if len(iv) != nonceSize", "if err != nil"] ∧
    condsOf "key_chacha20poly1305.chacha.Decrypt" = some ["if !h.key.Ops().EmptyOrHas(iana.KeyOperationDecrypt)",
      "if len(iv) != nonceSize", "if err != nil"] := by
  decide +kernel

end Cose.Props.PrimShapeAead
