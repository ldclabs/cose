import Cose.Key.PrimLemmas
import Cose.Go.Lemmas
/-!
# C12 — AES-GCM, AES-CCM and ChaCha20/Poly1305 match reference AEADs exactly

* parameter tables regenerated from the source and proved equal to RFC 9053 tables 5, 6 and §4.3
  (`ccm_params_are_rfc9053`, `gcm_chacha_params_are_rfc9053`);
* the additional-data length prefix written by `ccm.tag` (constants read from the source) is proved equal to
  RFC 3610 §2.2 for every length (`ccm_aad_header_is_rfc3610`);
* round trip and ciphertext length proved for the CCM construction (`ccm_roundtrip`) and for the generic stream AEAD
  that GCM and ChaCha20/Poly1305 instantiate (`gcm_roundtrip`, `chacha_roundtrip`; AES block length proved; keystream /
  tag lengths proved in the reference modules); for the latter also that an accepted ciphertext is the sealing of the
  plaintext it opens to (`gcm_open_unique`, `chacha_open_unique`);
* a nonce of another length and an over-long CCM plaintext are refused (`*_wrong_nonce_refused`,
  `ccm_plaintext_limit_refused`), and CCM answers no panic (`ccm_never_panics`);
* byte equality of the library's output with these definitions is the spec-op correspondence `prim.aead.*`.
-/
namespace Cose.Props.C12
open Cose.Key Cose.Crypto Cose.Go

/-- RFC 9053 table 6: (alg, key bytes, tag bytes, nonce bytes); L = 15 − nonce -/
def rfcCcm : List (Int × Nat × Nat × Nat) :=
  [(10, 16, 8, 13), (11, 32, 8, 13), (12, 16, 8, 7), (13, 32, 8, 7),
   (30, 16, 16, 13), (31, 32, 16, 13), (32, 16, 16, 7), (33, 32, 16, 7)]
/-- RFC 9053 table 5: (alg, key bytes) -/
def rfcGcm : List (Int × Nat) := [(1, 16), (2, 24), (3, 32)]

theorem ccm_params_are_rfc9053 :
    (∀ r ∈ rfcCcm, ccmKeySize r.1 = r.2.1 ∧ ccmTagSize r.1 = r.2.2.1 ∧ ccmNonceSize r.1 = r.2.2.2) ∧
    Cose.Gen.Tables.sw_key_aesccm_getKeySize.irows.map (·.1) = rfcCcm.map (·.1) ∧
    Cose.Gen.Tables.sw_key_aesccm_getKeySize.idflt = [0, 0, 0] := by decide +kernel

theorem gcm_chacha_params_are_rfc9053 :
    (∀ r ∈ rfcGcm, gcmKeySize r.1 = r.2) ∧
    Cose.Gen.Tables.sw_key_aesgcm_getKeySize.irows.map (·.1) = rfcGcm.map (·.1) ∧
    gcmNonceSize = 12 ∧ chachaKeySize = 32 ∧ chachaNonceSize = 12 ∧
    Cose.Gen.Tables.sw_key_chacha20poly1305_getKeySize.irows = [(24, [32])] := by decide +kernel

theorem gcmNonceSize_eq : gcmNonceSize = 12 := gcm_chacha_params_are_rfc9053.2.2.1
theorem chachaNonceSize_eq : chachaNonceSize = 12 := gcm_chacha_params_are_rfc9053.2.2.2.2.1

/-- the constants of `ccm.tag`, which `Key/Prims.lean` reads from the regenerated source -/
theorem ccm_constants :
    ccmShortMax = 65279 ∧ ccmMidLimit = 4294967296 ∧ ccmMarker0 = 255 ∧ ccmMarker1a = 254 ∧ ccmMarker1b = 255 := by
  decide +kernel

/-- **the additional-data length prefix that `ccm.tag` writes (`ccmAadLenCode`) is the one of RFC 3610 §2.2**
    (`ccmAadLen`) -/
theorem ccm_aad_header_is_rfc3610 (n : Nat) : ccmAadLenCode n = ccmAadLen n := by
  obtain ⟨a, b, c, d, e⟩ := ccm_constants
  unfold ccmAadLenCode ccmAadLen
  rw [a, b, c, d, e]
  -- what is left to tell the two apart is `n ≤ 65279` for `n < 65280`
  simp only [show (n ≤ 65279) = (n < 65280) from propext Nat.lt_succ_iff.symm]
  rfl

theorem ccm_tag_le_16 {alg : Int} (h : alg ∈ rfcCcm.map (·.1)) : ccmTagSize alg ≤ 16 := by
  obtain ⟨r, hr, rfl⟩ := List.mem_map.mp h
  rw [(ccm_params_are_rfc9053.1 r hr).2.1]
  exact (by decide : ∀ r ∈ rfcCcm, r.2.2.1 ≤ 16) r hr

theorem ccm_roundtrip (alg : Int) (halg : alg ∈ rfcCcm.map (·.1)) (key nonce pt aad ct : Bytes)
    (h : ccmEncrypt alg key nonce pt aad = .ok ct) :
    ccmDecrypt alg key nonce ct aad = .ok pt ∧ ct.length = pt.length + ccmTagSize alg := by
  have hM := ccm_tag_le_16 halg
  unfold ccmEncrypt at h
  unfold ccmDecrypt
  cases hk : aesE key with
  | none => rw [hk] at h; cases h
  | some E =>
    have hE := aesE_length hk
    rw [hk] at h
    obtain ⟨hn, h⟩ := Res.of_guard_ok h
    obtain ⟨hs, h⟩ := Res.of_guard_ok h
    cases h
    have hl := ccmSeal_length E hE (ccmTagSize alg) (15 - ccmNonceSize alg) hM nonce pt aad
    simp only
    -- the two `omega`s: `ct` is not shorter than the tag `M` (by `hl`) and not longer than `ccmMaxLen L M + M` (`hl`, `hs`)
    rw [if_neg hn, if_neg (by omega), if_neg (by omega), ccmOpen_seal E hE _ _ hM]
    exact ⟨rfl, hl⟩

theorem ccm_never_panics (alg : Int) (key nonce x aad : Bytes) :
    (ccmEncrypt alg key nonce x aad).isPanic = false ∧ (ccmDecrypt alg key nonce x aad).isPanic = false := by
  unfold ccmEncrypt ccmDecrypt
  cases aesE key with
  | none => exact ⟨rfl, rfl⟩
  | some E =>
    refine ⟨Res.isPanic_ite rfl (Res.isPanic_ite rfl rfl), Res.isPanic_ite rfl (Res.isPanic_ite rfl (Res.isPanic_ite rfl ?_))⟩
    split <;> rfl

theorem ccm_wrong_nonce_refused (alg : Int) (key nonce pt aad : Bytes) (h : nonce.length ≠ ccmNonceSize alg) :
    ¬ (ccmEncrypt alg key nonce pt aad).isOk ∧ ¬ (ccmDecrypt alg key nonce pt aad).isOk := by
  unfold ccmEncrypt ccmDecrypt
  cases aesE key <;> simp [h, Res.isOk]

theorem ccm_plaintext_limit_refused (alg : Int) (key nonce pt aad : Bytes)
    (h : pt.length > ccmMaxLen (15 - ccmNonceSize alg) (ccmTagSize alg)) :
    ¬ (ccmEncrypt alg key nonce pt aad).isOk := by
  unfold ccmEncrypt
  cases aesE key with
  | none => exact Bool.false_ne_true
  | some E => exact Bool.eq_false_iff.mp (Res.isOk_guard (by rw [if_pos h]; rfl))

example : ccmMaxLen (15 - ccmNonceSize 10) (ccmTagSize 10) = 65535 := by decide +kernel

theorem gcm_ks_length : ∀ k n l, (gcmAead.ks k n l).length = l := by
  intro k n l; unfold gcmAead; simp only
  cases aesExpandKey k with
  | none => exact zeros_length l
  | some ak => exact gcmKeystream_length ak n l

theorem gcm_tag_length : ∀ k n a c, (gcmAead.tag k n a c).length = gcmAead.tagLen := by
  intro k n a c; unfold gcmAead; simp only
  cases aesExpandKey k with
  | none => exact zeros_length 16
  | some ak => exact gcmTag_length ak n a c

/-- the shape `gcmEncrypt` and `chachaEncrypt` share (`openG`: their `Decrypt`s): a key guard, a nonce guard, then the
    stream AEAD -/
def sealG (A : StreamAead) (kbad : Prop) [Decidable kbad] (ns : Nat) (key nonce pt aad : Bytes) : Res Bytes :=
  if kbad then .err "key" else if nonce.length ≠ ns then .err "nonce" else .ok (A.seal key nonce pt aad)

def openG (A : StreamAead) (kbad : Prop) [Decidable kbad] (ns : Nat) (key nonce ct aad : Bytes) : Res Bytes :=
  if kbad then .err "key" else if nonce.length ≠ ns then .err "nonce"
  else match A.open key nonce ct aad with | some p => .ok p | none => .err "auth"

section
variable (A : StreamAead) (hks : ∀ k n l, (A.ks k n l).length = l) {kbad : Prop} [Decidable kbad] {ns : Nat}
  {key nonce x aad y : Bytes}

theorem guarded_wrong_nonce (h : nonce.length ≠ ns) :
    ¬ (sealG A kbad ns key nonce x aad).isOk ∧ ¬ (openG A kbad ns key nonce x aad).isOk := by
  unfold sealG openG
  rw [if_pos h, if_pos h]
  exact ⟨Bool.eq_false_iff.mp (Res.isOk_guard rfl), Bool.eq_false_iff.mp (Res.isOk_guard rfl)⟩

include hks

theorem openG_sealG (htag : ∀ k n a c, (A.tag k n a c).length = A.tagLen)
    (h : sealG A kbad ns key nonce x aad = .ok y) :
    openG A kbad ns key nonce y aad = .ok x ∧ y.length = x.length + A.tagLen := by
  obtain ⟨hk, h⟩ := Res.of_guard_ok h
  obtain ⟨hn, h⟩ := Res.of_guard_ok h
  cases h
  unfold openG
  rw [if_neg hk, if_neg hn, StreamAead.open_seal A hks htag]
  exact ⟨rfl, StreamAead.seal_length A hks htag key nonce x aad⟩

theorem sealG_of_openG (h : openG A kbad ns key nonce y aad = .ok x) : sealG A kbad ns key nonce x aad = .ok y := by
  obtain ⟨hk, h⟩ := Res.of_guard_ok h
  obtain ⟨hn, h⟩ := Res.of_guard_ok h
  unfold sealG
  split at h
  · rename_i p ho
    cases h
    rw [if_neg hk, if_neg hn, ← StreamAead.open_unique A hks ho]
  · cases h
end

theorem gcm_roundtrip (key nonce pt aad ct : Bytes) (h : gcmEncrypt key nonce pt aad = .ok ct) :
    gcmDecrypt key nonce ct aad = .ok pt ∧ ct.length = pt.length + 16 :=
  -- by unfolding alone `gcmEncrypt` is `sealG gcmAead ((aesExpandKey key).isNone) gcmNonceSize` and `gcmDecrypt` the same
  -- `openG`; the ChaCha pair is `sealG` / `openG chachaAead (key.length ≠ chachaKeySize) chachaNonceSize`.  That is why
  -- `h` and the goal fit here and in the five theorems below
  openG_sealG gcmAead gcm_ks_length gcm_tag_length h

theorem chacha_roundtrip (key nonce pt aad ct : Bytes) (h : chachaEncrypt key nonce pt aad = .ok ct) :
    chachaDecrypt key nonce ct aad = .ok pt ∧ ct.length = pt.length + 16 :=
  openG_sealG chachaAead chachaKeystream_length chachaPolyTag_length h

theorem gcm_open_unique (key nonce ct aad p : Bytes) (h : gcmDecrypt key nonce ct aad = .ok p) :
    gcmEncrypt key nonce p aad = .ok ct :=
  sealG_of_openG gcmAead gcm_ks_length h

theorem chacha_open_unique (key nonce ct aad p : Bytes) (h : chachaDecrypt key nonce ct aad = .ok p) :
    chachaEncrypt key nonce p aad = .ok ct :=
  sealG_of_openG chachaAead chachaKeystream_length h

theorem gcm_wrong_nonce_refused (key nonce x aad : Bytes) (h : nonce.length ≠ 12) :
    ¬ (gcmEncrypt key nonce x aad).isOk ∧ ¬ (gcmDecrypt key nonce x aad).isOk :=
  guarded_wrong_nonce gcmAead (gcmNonceSize_eq ▸ h)

theorem chacha_wrong_nonce_refused (key nonce x aad : Bytes) (h : nonce.length ≠ 12) :
    ¬ (chachaEncrypt key nonce x aad).isOk ∧ ¬ (chachaDecrypt key nonce x aad).isOk :=
  guarded_wrong_nonce chachaAead (chachaNonceSize_eq ▸ h)

-- non-vacuity
#guard (ccmEncrypt 10 (zeros 16) (zeros 13) [1, 2, 3] [4]).isOk
#guard (gcmEncrypt (zeros 16) (zeros 12) [1, 2, 3] [4]).isOk
#guard ccmAadLenCode 65280 == [0xff, 0xfe, 0, 0, 0xff, 0]

end Cose.Props.C12
