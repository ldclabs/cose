import Cose.Props.C18Lemmas
import Cose.Gen.Footprints
import Cose.Gen.Layouts
/-!
# C18 — CWT validation decides exactly per RFC 8392 for every timestamp and option

Model: `Cose.Cwt.validate` / `validateMap` mirror `/repo/cwt/validator.go` with Go's `time.Time`
arithmetic (int64 wrap in `time.Unix`, saturating `Add`).  Spec: `Cose.Spec.Rfc8392.accept`, plain
integers.  The `toTime` guard and the skew cap come from the generated tables.

Hypotheses of `validateMap_eq_spec` / `validate_eq_spec` (`Props/C18Lemmas.lean`; met by `sampleOpts` at the end):
* `NowSane o.now` — FixedNow is at or after the Unix epoch and less than 2^62 s after year 1;
* `o.now.WF` — nanoseconds normalised (every `time.Time` is);
* `SkewInRange o.skew` — the skew is an int64 other than MinInt64 (whose negation wraps) and at most ten minutes
  (600000000000 ns: what `NewValidator` lets pass, `skew_cap`).
The time claims are any natural numbers.
-/
namespace Cose.Props.C18
open Cose.Cwt Cose.Cwt.GoTime Cose.Spec.Rfc8392

/-- **what passes `toTime`'s guard does not wrap**: its count of seconds from year 1 is an int64 (`hu` is not used) -/
theorem totime_guard_prevents_wrap (u : Nat) (hu : u < 18446744073709551616) (hg : toTimeGuard u = false) :
    (u : Int) + 62135596800 < 9223372036854775808 := by
  rw [toTimeGuard_eq, maxRep] at hg
  have := of_decide_eq_false hg
  omega

theorem totime_guard_exact (u : Nat) : toTimeGuard u = decide (u > maxRepresentable) :=
  toTimeGuard_eq u

/-- **C18, map path**: `ValidateMap` accepts iff RFC 8392's rule does, for every exp / nbf / iat (any natural number, or
    ill-typed), every flag combination and every issuer / audience; `now` and the skew as in the header. -/
theorem validateMap_eq_spec (o : VOpts) (c : Claims)
    (hnow : NowSane o.now) (hwf : o.now.WF) (hs : SkewInRange o.skew) :
    (validateMap o c = .ok) ↔ (accept (specOpts o) c = true) := by
  unfold validateMap
  rw [firstErr_ok, accept_iff]
  simp only [List.mem_cons, List.not_mem_nil, or_false, forall_eq_or_imp, forall_eq]
  rw [stageExp_none o hnow hwf hs, stageNbf_none o hnow hwf hs, stageIat_none o hnow hwf hs,
    stageText_none, stageText_none]
  rfl

theorem validate_eq_validateMap (o : VOpts) (c : SClaims) : validate o c = validateMap o c.toMap := by
  unfold validate validateMap SClaims.toMap
  refine congrArg firstErr ?_
  simp only [List.cons.injEq, and_true]
  refine ⟨?_, ?_, ?_, ?_, ?_⟩
  · cases h : c.exp with
    | zero => rfl
    | succ n => simp [stageExp]
  · cases h : c.nbf with
    | zero => rfl
    | succ n => simp [stageNbf]
  · cases h : c.iat with
    | zero => rfl
    | succ n => simp [stageIat]
  · by_cases h : c.issuer = "" <;> simp [h, stageText]
  · by_cases h : c.audience = "" <;> simp [h, stageText]

/-- **the two paths agree**: `Validate` accepts a typed `Claims` iff `ValidateMap` accepts the map it encodes to -/
theorem struct_map_agree (o : VOpts) (c : SClaims) :
    (validate o c = .ok) ↔ (validateMap o c.toMap = .ok) := by
  rw [validate_eq_validateMap]

/-- **C18, struct path**: `Validate` on a typed `Claims` accepts iff the rule accepts the claim set the
    struct denotes (`omitempty`: a zero field is an absent claim). -/
theorem validate_eq_spec (o : VOpts) (c : SClaims)
    (hnow : NowSane o.now) (hwf : o.now.WF) (hs : SkewInRange o.skew) :
    (validate o c = .ok) ↔ (accept (specOpts o) c.toMap = true) :=
  (struct_map_agree o c).trans (validateMap_eq_spec o c.toMap hnow hwf hs)

/-- a *map* without a struct counterpart: one with an explicit `exp: 0` entry.  The map path treats it as "expired in
    1970", the struct cannot express it (zero means absent).  Stated so that the exclusion in `struct_map_agree` (it
    quantifies over structs, i.e. maps produced by `toMap`) is visible. -/
theorem map_exp_zero_is_expired (o : VOpts) (c : Claims) (hnow : NowSane o.now) (hwf : o.now.WF)
    (hs : SkewInRange o.skew) (h600 : 62135596800 + 600 < o.now.sec) (h : c.exp = .secs 0) :
    validateMap o c ≠ .ok := by
  intro hok
  have h1 := ((accept_iff _ _).mp ((validateMap_eq_spec o c hnow hwf hs).mp hok)).1
  rw [h, expOk_secs] at h1
  -- the rule's "now − skew" is after 1970: now is more than 600 s after the epoch, the skew at most 600 s
  have h2 : ((0 : Nat) : Int) * 1000000000 > o.now.ns - 62135596800000000000 - o.skew := h1.2
  have hn : o.now.ns = o.now.sec * 1000000000 + o.now.nsec := rfl
  have := hwf.1
  have := hs.2
  omega

theorem expOk_anti (o : Opts) (e : TimeClaim) {t t' : Int} (h : t ≤ t')
    (a : expOk { o with nowUnixNs := t' } e = true) : expOk { o with nowUnixNs := t } e = true := by
  cases e with
  | secs n =>
    rw [expOk_secs] at a ⊢
    exact ⟨a.1, Int.lt_of_le_of_lt (Int.sub_le_sub_right h _) a.2⟩
  | _ => exact a

theorem notAfterNowOk_mono (o : Opts) (e : TimeClaim) {t t' : Int} (h : t ≤ t')
    (a : notAfterNowOk { o with nowUnixNs := t } e = true) : notAfterNowOk { o with nowUnixNs := t' } e = true := by
  cases e with
  | secs n =>
    simp only [notAfterNowOk, Bool.and_eq_true, decide_eq_true_eq, Bool.not_eq_true', decide_eq_false_iff_not] at a ⊢
    exact ⟨a.1, by omega⟩
  | _ => exact a

theorem iatOk_mono (o : Opts) (e : TimeClaim) {t t' : Int} (h : t ≤ t')
    (a : iatOk { o with nowUnixNs := t } e = true) : iatOk { o with nowUnixNs := t' } e = true := by
  cases e with
  | secs n =>
    -- whether issued-at is compared does not depend on the instant
    by_cases hc : (o.expectIssuedInThePast && n != 0) = true
    · exact (if_pos hc).trans (notAfterNowOk_mono o _ h ((if_pos hc).symm.trans a))
    · exact if_neg hc
  | _ => exact a

/-- **the instants at which the rule accepts a claim set form an interval**: accepted at `t1` and at `t3`, it is accepted
    at every `t2` in between (the expiry bound holds at every earlier instant, the other two at every later one) -/
theorem accept_interval (o : Opts) (c : Claims) (t1 t2 t3 : Int) (h12 : t1 ≤ t2) (h23 : t2 ≤ t3)
    (a1 : accept { o with nowUnixNs := t1 } c = true) (a3 : accept { o with nowUnixNs := t3 } c = true) :
    accept { o with nowUnixNs := t2 } c = true := by
  rw [accept_iff] at *
  exact ⟨expOk_anti o _ h23 a3.1, notAfterNowOk_mono o _ h12 a1.2.1, iatOk_mono o _ h12 a1.2.2.1, a1.2.2.2⟩

theorem expired_stays_expired (o : Opts) (n : Nat) (t1 t2 : Int) (h : t1 ≤ t2)
    (e : expOk { o with nowUnixNs := t1 } (.secs n) = false) : expOk { o with nowUnixNs := t2 } (.secs n) = false :=
  Bool.eq_false_iff.mpr fun a => Bool.eq_false_iff.mp e (expOk_anti o _ h a)

/-- **skew cap**: `NewValidator` succeeds iff the skew is at most ten minutes -/
theorem skew_cap (o : VOpts) : newValidatorOk o = skewAllowed o.skew := by
  unfold newValidatorOk skewAllowed
  rw [maxSkewMinutes_eq, Bool.eq_iff_iff]
  simp only [Bool.not_eq_true', decide_eq_false_iff_not, decide_eq_true_eq]
  omega

example : newValidatorOk ⟨"", "", false, false, 600000000001, GoTime.unix 1700000000⟩ = false := by decide +kernel

/-- **the configuration is fixed at construction** (two filters of the generated tables): the validator holds its options
    *by value* (six plain fields, no pointer, slice or map through which the caller's object could be reached), and its
    methods, `Validate` and `ValidateMap`, neither assign to them nor take their address. -/
theorem validator_holds_a_copy :
    Cose.Gen.Footprints.structFields.filter (fun s => s.1 == "cwt.Validator" || s.1 == "cwt.ValidatorOpts") =
      [("cwt.Validator", [("opts", "ValidatorOpts")]),
       ("cwt.ValidatorOpts", [("ExpectedIssuer", "string"), ("ExpectedAudience", "string"), ("AllowMissingExpiration", "bool"),
          ("ExpectIssuedInThePast", "bool"), ("ClockSkew", "time.Duration"), ("FixedNow", "time.Time")])]
    ∧ (Cose.Gen.Footprints.footprints.filter (fun m => m.2.1 == "cwt.Validator")).all (fun m =>
        m.2.2.all (fun u => u.2 != "assigned" && u.2 != "addr")) = true := by decide +kernel

/-- an ordinary configuration that meets the three hypotheses (the `example` below); claim sets it accepts and refuses follow -/
def sampleOpts : VOpts :=
  { expectedIssuer := "iss", expectedAudience := "", allowMissingExpiration := false,
    expectIssuedInThePast := true, skew := 60000000000, now := GoTime.unix 1700000000 }

example : NowSane sampleOpts.now ∧ sampleOpts.now.WF ∧ SkewInRange sampleOpts.skew := by
  unfold NowSane GoTime.WF SkewInRange; decide +kernel
example : validateMap sampleOpts ⟨.secs 1800000000, .secs 1600000000, .absent, .text "iss", .absent⟩ = .ok := by
  decide +kernel
-- 9223371974719179008 = `maxRepresentable` + 1: the first NumericDate that `toTime` refuses
example : validateMap sampleOpts ⟨.secs 1800000000, .secs 9223371974719179008, .absent, .text "iss", .absent⟩
    = .err .notYet := by decide +kernel
example : validateMap sampleOpts ⟨.secs 9223371974719179008, .absent, .absent, .text "iss", .absent⟩
    = .err .expired := by decide +kernel
example : validate sampleOpts ⟨"iss", "", 1800000000, 0, 1700000061⟩ = .err .iatFuture := by decide +kernel

/-- **claim sets are decoded strictly**: the options literal of the shared decoder (`decOpts` in `key/cbor.go`, as the
    generated table has it) asks for duplicate map keys to be refused and forbids indefinite lengths -/
theorem claims_decoder_is_strict :
    Cose.Gen.Layouts.cborOptions.lookup "decOpts" =
      some [("DupMapKey", "cbor.DupMapKeyEnforcedAPF"), ("IndefLength", "cbor.IndefLengthForbidden")] := by decide +kernel

end Cose.Props.C18
