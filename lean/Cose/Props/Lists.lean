/-!
# Element-wise relations of two and three lists

Core Lean has no `Forall₂`.  The statements about lists of signers, signature objects, recipients and keys are made item
by item through these.  `All2` is in the namespace `C01Sign`, `All3` in `C01Mac`.
-/
namespace Cose.Props.C01Sign

inductive All2 {α β} (R : α → β → Prop) : List α → List β → Prop
  | nil : All2 R [] []
  | cons {a b l₁ l₂} : R a b → All2 R l₁ l₂ → All2 R (a :: l₁) (b :: l₂)

theorem All2.length_eq {α β} {R : α → β → Prop} {l₁ : List α} {l₂ : List β} (h : All2 R l₁ l₂) : l₂.length = l₁.length := by
  induction h with
  | nil => rfl
  | cons _ _ ih => simp [ih]

end Cose.Props.C01Sign

namespace Cose.Props.C01Mac

inductive All3 {α β γ} (R : α → β → γ → Prop) : List α → List β → List γ → Prop
  | nil : All3 R [] [] []
  | cons {a b c l₁ l₂ l₃} : R a b c → All3 R l₁ l₂ l₃ → All3 R (a :: l₁) (b :: l₂) (c :: l₃)

end Cose.Props.C01Mac
