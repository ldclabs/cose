import Cose.Key.PrimLemmas
/-!
# C11 — HMAC and AES-CBC-MAC tags equal the RFC 9053 definition and verify exactly

* the algorithm tables (`getKeySize`, `Alg.HashFunc`) are **regenerated from the source** and proved equal to
  RFC 9053 tables 3 and 4 (`hmac_table_is_rfc9053`, `aesmac_table_is_rfc9053`; finite tables ⇒ `decide` is a proof);
* the constructions are generic (`Cose.Crypto.hmac`, `cbcMac`) and their laws are proved for every hash /
  block cipher; the tags have the tables' lengths (`hmac_tag_length`, `aesmac_tag_length`: AES's block function has a
  proved 16-byte output; SHA-2 output lengths are an explicit hypothesis) and verification accepts the expected tag
  and no other string (`macVerify_iff`);
* equality of the library's tags with these definitions is the spec-op correspondence `prim.mac` /
  `prim.macverify` (library vs the Lean reference, every residue mod 16 / 64 / 128, all tag mutations).
-/
namespace Cose.Props.C11
open Cose.Key Cose.Crypto Cose.Go

/-- RFC 9053 table 3: (alg, Go hash id, key bytes, tag bytes) -/
def rfcHmac : List (Int × Nat × Nat × Nat) := [(4, 5, 32, 8), (5, 5, 32, 32), (6, 6, 48, 48), (7, 7, 64, 64)]
/-- RFC 9053 table 4: (alg, key bytes, tag bytes) -/
def rfcAesMac : List (Int × Nat × Nat) := [(14, 16, 8), (15, 32, 8), (25, 16, 16), (26, 32, 16)]

/-- the last two conjuncts: the generated table has no other row and answers sizes 0 by default, so nothing else is an
    HMAC algorithm -/
theorem hmac_table_is_rfc9053 :
    (∀ r ∈ rfcHmac, nth (swRow Cose.Gen.Tables.sw_key_Alg_HashFunc r.1) 0 = r.2.1 ∧
      hmacKeySize r.1 = r.2.2.1 ∧ hmacTagSize r.1 = r.2.2.2) ∧
    Cose.Gen.Tables.sw_key_hmac_getKeySize.irows.map (·.1) = rfcHmac.map (·.1) ∧
    Cose.Gen.Tables.sw_key_hmac_getKeySize.idflt = [0, 0] := by decide +kernel

theorem aesmac_table_is_rfc9053 :
    (∀ r ∈ rfcAesMac, aesmacKeySize r.1 = r.2.1 ∧ aesmacTagSize r.1 = r.2.2) ∧
    Cose.Gen.Tables.sw_key_aesmac_getKeySize.irows.map (·.1) = rfcAesMac.map (·.1) ∧
    Cose.Gen.Tables.sw_key_aesmac_getKeySize.idflt = [0, 0] := by decide +kernel

theorem aesmac_tag_length (alg : Int) (halg : alg ∈ rfcAesMac.map (·.1)) (key data tag : Bytes)
    (h : aesmacCreate alg key data = .ok tag) :
    tag.length = aesmacTagSize alg ∧ (aesmacTagSize alg = 8 ∨ aesmacTagSize alg = 16) := by
  obtain ⟨r, hr, rfl⟩ := List.mem_map.mp halg
  have ht : aesmacTagSize r.1 = 8 ∨ aesmacTagSize r.1 = 16 := by
    rw [(aesmac_table_is_rfc9053.1 r hr).2]
    exact (by decide : ∀ r ∈ rfcAesMac, r.2.2 = 8 ∨ r.2.2 = 16) r hr
  exact ⟨aesmacCreate_length h (by omega), ht⟩

theorem aesmac_empty_refused (alg : Int) (key : Bytes) : ∃ e, aesmacCreate alg key [] = .err e := by
  unfold aesmacCreate; cases aesE key <;> simp

theorem aesmac_no_extra_block (E : Bytes → Bytes) (t : Nat) (m : Bytes) (h : m.length % 16 = 0) :
    cbcMac E t m = (cbcChain E (m.length / 16) (zeros 16) m).take t := by
  rw [cbcMac, cbcMacFull_aligned E h]

/-- the 64-bit tag is a prefix of the 128-bit tag under the same key (why the protected alg must bind, C05) -/
theorem aesmac_64_prefix_of_128 (E : Bytes → Bytes) (m : Bytes) : cbcMac E 8 m = (cbcMac E 16 m).take 8 :=
  cbcMac_prefix E 8 16 (by omega) m

theorem hmac_tag_length (alg : Int) (key data tag : Bytes) (h : hmacCreate alg key data = some tag)
    (hsha : (∀ m, (sha256 m).length = 32) ∧ (∀ m, (sha384 m).length = 48) ∧ (∀ m, (sha512 m).length = 64))
    (halg : alg ∈ rfcHmac.map (·.1)) : tag.length = hmacTagSize alg := by
  -- the row of the algorithm: its hash id and tag size are those of `hmac_table_is_rfc9053`
  obtain ⟨r, hr, rfl⟩ := List.mem_map.mp halg
  obtain ⟨hid, -, htag⟩ := hmac_table_is_rfc9053.1 r hr
  obtain ⟨h256, h384, h512⟩ := hsha
  simp only [rfcHmac, List.mem_cons, List.not_mem_nil, or_false] at hr
  rcases hr with rfl | rfl | rfl | rfl
  · exact hmacCreate_length h hid rfl h256 (by rw [htag]; decide)
  · exact hmacCreate_length h hid rfl h256 (by rw [htag]; decide)
  · exact hmacCreate_length h hid rfl h384 (by rw [htag]; decide)
  · exact hmacCreate_length h hid rfl h512 (by rw [htag]; decide)

theorem macVerify_iff (expected mac : Bytes) : macVerify expected mac = true ↔ mac = expected := by
  unfold macVerify
  rw [beq_iff_eq]
  exact eq_comm

theorem macVerify_rejects_other_length (expected mac : Bytes) (h : mac.length ≠ expected.length) :
    macVerify expected mac = false :=
  Bool.eq_false_iff.mpr fun hv => h (congrArg List.length ((macVerify_iff expected mac).mp hv))

-- non-vacuity
#guard (hmacCreate 5 ("Jefe".toUTF8.toList ++ zeros 28) "x".toUTF8.toList).isSome
example : rfcHmac.map (·.1) = [4, 5, 6, 7] := rfl

end Cose.Props.C11
