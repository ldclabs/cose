import Cose.Props.C01
import Cose.Props.C08
/-!
# C09 — decode then re-encode preserves messages; value round trips are exact

* `reencode_preserves_authenticated`: whatever wire struct a COSE_Sign1 / COSE_Mac0 decoder retained — protected bytes as
  received, canonical or not; the unprotected map in canonical entry order (`WF u`) — encoding it and decoding again yields the same protected bytes, payload
  and signature/tag — so it still verifies (`reencoded_still_verifies`);
* `signature_reencodes_raw_bucket`: a COSE_Signature re-encodes its protected bucket from the bytes received;
* `remove_tag_only_tag`: removing the CBOR tag changes nothing but the tag;
* `label_map_roundtrip`: header / key / claim maps come back from encode → decode with every typed accessor answering
  as before.
The other kinds are in `C09Sign.lean` and `C09All.lean`; KDF contexts in `KdfRoundtrip.lean`, key sets in
`KeySetRoundtrip.lean`, the claims struct in `ClaimsRoundtrip.lean`.  The remaining value types are tied by the
correspondence ops `msg.reencode`, `map.unmarshal`, `kdf.*`, `claims.*`.
-/
namespace Cose.Props.C09
open Cose.Msg Cose.Go Cose.Cbor Cose.Gen Cose.Props.C01

/-- **re-encoding preserves every authenticated byte string** (COSE_Sign1, COSE_Mac0) -/
theorem reencode_preserves_authenticated (k : Kind) (hk : k = .sign1 ∨ k = .mac0) (w : Wire)
    (u : Cbor) (hu : hdrCbor w.unprot = some u) (huw : WF u) (hud : depth u + 2 < maxNesting)
    (uh : Hdr) (huf : hdrField u = .ok uh)
    (hp : ∀ x, w.prot = some x → x.length < two64) (hy : ∀ x, w.payload = some x → x.length < two64)
    (ha : ∀ x, w.auth = some x → x.length < two64) (pm : CMap) (hpm : hdrFromBytes w.prot = .ok pm) :
    ∃ bytes m2 w2, marshal k w = some bytes ∧ unmarshal k .raw bytes = .ok m2 ∧ m2.mm = some w2 ∧
      w2.prot = w.prot ∧ w2.payload = w.payload ∧ w2.auth = w.auth := by
  obtain ⟨bytes, hmar, hun⟩ :=
    auth4_decode k hk .raw w ⟨⟨u, hu, rfl⟩, huw, hud, huf⟩ hp hy ha hpm (payloadFromWire_raw _)
  exact ⟨_, _, _, hmar, hun, rfl, rfl, rfl, rfl⟩

/-- verification looks only at the retained wire struct and the decoded protected map: with those preserved,
    the verdict is preserved -/
theorem reencoded_still_verifies (m m2 : Msg) (w w2 : Wire) (hm : m.mm = some w) (hm2 : m2.mm = some w2)
    (hk : m2.kind = m.kind) (hpm : m2.prot = m.prot)
    (h1 : w2.prot = w.prot) (h2 : w2.payload = w.payload) (h3 : w2.auth = w.auth)
    (key : KeyView) (check : Bytes → Bytes → Res Unit) (ext : Option Bytes) :
    verifyAuth m2 key check ext = verifyAuth m key check ext := by
  unfold verifyAuth
  simp only [hm, hm2, h3, hpm, hk, tobe_congr h1 h2]

/-- a COSE_Signature that was decoded re-encodes its protected bucket from the received bytes, verbatim -/
theorem signature_reencodes_raw_bucket (s : SigObj) (raw : Bytes) (hr : s.protRaw = some raw) (u : Cbor)
    (hu : hdrCbor s.unprot = some u) :
    sigCbor s = some (.arr [.bstr raw, u, bytesCbor s.signature]) := by
  unfold sigCbor; simp [hr, hu]

/-- `RemoveCBORTag`: an optional CWT prefix `d8 3d`, then the one-octet tags (`d2 84`, `d1 84`, `d0 83`) or the two-octet ones
    (`d8 62 84`, `d8 61 85`, `d8 60 84`), each recognised together with the array head after it; the prefixes are the
    literals of `tag_prefix.go` (`prefixes_match_source`) -/
def removeTagModel (data : Bytes) : Bytes :=
  let d := if [0xd8, 0x3d].isPrefixOf data then data.drop 2 else data
  if [0xd2, 0x84].isPrefixOf d || [0xd1, 0x84].isPrefixOf d || [0xd0, 0x83].isPrefixOf d then d.drop 1
  else if [0xd8, 0x62, 0x84].isPrefixOf d || [0xd8, 0x61, 0x85].isPrefixOf d || [0xd8, 0x60, 0x84].isPrefixOf d then d.drop 2
  else d

/-- the prefixes in `tag_prefix.go` are the ones the model uses -/
theorem prefixes_match_source :
    Layouts.byteVars.filter (fun v => v.1 == "cose") =
      [("cose", "cwtPrefix", [216, 61]), ("cose", "encrypt0MessagePrefix", [208, 131]),
       ("cose", "encryptMessagePrefix", [216, 96, 132]), ("cose", "mac0MessagePrefix", [209, 132]),
       ("cose", "macMessagePrefix", [216, 97, 133]), ("cose", "sign1MessagePrefix", [210, 132]),
       ("cose", "signMessagePrefix", [216, 98, 132])] := by decide +kernel

/-- tag numbers used by the six `MarshalCBOR` are the IANA ones, each wrapping the wire struct -/
theorem marshal_tags_match_source :
    Layouts.marshalTags = [("Encrypt0Message", 16, "m.mm"), ("EncryptMessage", 96, "m.mm"), ("Mac0Message", 17, "m.mm"),
      ("MacMessage", 97, "m.mm"), ("Sign1Message", 18, "m.mm"), ("SignMessage", 98, "m.mm")] := by decide +kernel

theorem sign1_octets (xs : List Cbor) (h4 : xs.length = 4) :
    encode (.tag 18 (.arr xs)) = 0xd2 :: 0x84 :: encodeList xs ∧ encode (.arr xs) = 0x84 :: encodeList xs := by
  simp only [encode, h4]; exact ⟨rfl, rfl⟩

/-- **removing the tag changes nothing but the tag** (COSE_Sign1: `d2` followed by the 4-array) -/
theorem remove_tag_only_tag (xs : List Cbor) (h4 : xs.length = 4) :
    removeTagModel (encode (.tag 18 (.arr xs))) = encode (.arr xs) := by
  obtain ⟨e, e2⟩ := sign1_octets xs h4
  rw [e, e2]
  simp [removeTagModel, List.isPrefixOf]

theorem remove_cwt_and_tag (xs : List Cbor) (h4 : xs.length = 4) :
    removeTagModel (0xd8 :: 0x3d :: encode (.tag 18 (.arr xs))) = encode (.arr xs) := by
  obtain ⟨e, e2⟩ := sign1_octets xs h4
  rw [e, e2]
  simp [removeTagModel, List.isPrefixOf]

/-- **encode then decode returns an equal value**: for every label map with pairwise distinct in-range labels and
    scalar / list values, presented in any order, decoding the encoding succeeds, has the same number of entries,
    the same set of labels, and every typed accessor answers as on the original (integers by value whatever their
    Go kind, byte strings, booleans, text).  The one representable difference is Go-side only: a nil `[]byte` member
    is CBOR null on the wire and comes back as nil. -/
theorem label_map_roundtrip (m : CMap) (hok : ∀ kv ∈ m, EntryOk kv) (hnd : (m.map (·.1)).Nodup)
    (hlen : m.length ≤ Cose.Cbor.maxElems) :
    ∃ b m', encodeCMap m = some b ∧ decodeCMap b = .ok m' ∧ m'.length = m.length ∧
      ∀ l, m'.has l = m.has l ∧ getInt (m'.lookup l) = getInt (m.lookup l) ∧
        getBool (m'.lookup l) = getBool (m.lookup l) ∧ getString (m'.lookup l) = getString (m.lookup l) ∧
        (m.lookup l ≠ some .bnil → getBytes (m'.lookup l) = getBytes (m.lookup l)) := by
  obtain ⟨b, m', henc, hdec, hl, hlook⟩ := cmap_roundtrip m hok hnd hlen
  refine ⟨b, m', henc, hdec, hl, fun l => ?_⟩
  rw [CMap.has, CMap.has, hlook l, Option.isSome_map]
  exact ⟨rfl, getInt_map_normV fun _ => flat_of_lookup hok, getBool_map_normV _, getString_map_normV _, getBytes_map_normV⟩

/-- the options literals in `key/cbor.go` (regenerated) set nothing but duplicate-key enforcement, the ban on indefinite
    lengths and the bytewise sort: no size or nesting limit below fxamacker's defaults is configured (the same table as
    `C08.options_are_strict`, read here for what is absent from it) -/
theorem codec_options_are_the_known_ones :
    Cose.Gen.Layouts.cborOptions =
      [("decOpts", [("DupMapKey", "cbor.DupMapKeyEnforcedAPF"), ("IndefLength", "cbor.IndefLengthForbidden")]),
       ("encOpts", [("IndefLength", "cbor.IndefLengthForbidden"), ("Sort", "cbor.SortBytewiseLexical")])] :=
  Cose.Props.C08.options_are_strict

end Cose.Props.C09
