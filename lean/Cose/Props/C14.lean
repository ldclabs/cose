import Cose.Key.EcLemmas
import Cose.Go.Lemmas
/-!
# C14 — ECDH agreement is symmetric, encoding-independent and rejects bad points

Theorems (encoding logic): leading zero octets do not change the integer of a coordinate
(`coordinate_padding_irrelevant`; `compressed_x_padding_irrelevant` for the stripping `ecdhRemote` does to a compressed
x); two uncompressed remote keys whose coordinates are the same integers are the same remote point
(`uncompressed_remote_encoding_independent`); a private remote key, another curve's key, an off-curve point, an X25519
key not of 32 octets are refused (`private_remote_refused`, `other_curve_remote_refused`, `off_curve_remote_refused`,
`x25519_remote_wrong_length_refused`); `ECDH` answers no panic (`ecdhDerive_never_panics`).  Symmetry
(`a·(b·G) = b·(a·G)`) is the group law — assumed (DESIGN §8) and cross-checked against the Lean curve arithmetic by the
spec op `ecdh.symmetric` on thousands of pairs per curve incl. leading-zero coordinates and the low-order X25519 points.
-/
namespace Cose.Props.C14
open Cose.Key Cose.Crypto Cose.Go Cose.Gen

/-- the curve table of `ecdh.getCurve` in the source -/
theorem ecdh_curve_table :
    Tables.sw_key_ecdh_getCurve.srows =
      [(1, ["goecdh.P256()"]), (2, ["goecdh.P384()"]), (3, ["goecdh.P521()"]), (4, ["goecdh.X25519()"])] := by
  decide +kernel

theorem coordinate_padding_irrelevant (n : Nat) (b : Bytes) : os2ip (List.replicate n 0 ++ b) = os2ip b :=
  os2ip_replicate_zero n b

/-- about `stripZeros` alone, which `ecdhRemote` applies to a compressed x before it decompresses -/
theorem compressed_x_padding_irrelevant (b : Bytes) : os2ip (stripZeros b) = os2ip b := os2ip_stripZeros b

theorem private_remote_refused (k remote : Key) (cur : Option (List Int))
    (h : remote.has (lbl Iana.EC2KeyParameterD) = true) : (ecdhDerive k cur remote).isOk = false :=
  Bool.eq_false_iff.mpr fun hok => by simpa [h] using (ecdhDerive_ok hok).remotePublic

theorem ecdhRemote_never_panics (pk : Key) : (ecdhRemote pk).isPanic = false := by
  unfold ecdhRemote
  split
  · split
    · rfl
    · exact Res.isPanic_ite rfl rfl
    · split
      · exact Res.isPanic_ite rfl rfl
      · split
        · refine Res.isPanic_ite rfl ?_
          split <;> rfl
        · rfl
  · rfl

theorem ecdhDerive_never_panics (k remote : Key) (cur : Option (List Int)) :
    (ecdhDerive k cur remote).isPanic = false := by
  have hr := ecdhRemote_never_panics remote
  unfold ecdhDerive
  generalize ecdhRemote remote = r at hr
  refine Res.isPanic_ite rfl ?_
  split
  · split
    · rfl
    · refine Res.isPanic_ite rfl (Res.isPanic_ite rfl (Res.isPanic_ite rfl (Res.isPanic_ite rfl ?_)))
      split
      · exact Res.isPanic_ite rfl rfl
      · refine Res.isPanic_ite rfl ?_
        split <;> rfl
      · rfl
      · rfl
      · cases hr
  · rfl

-- a key of another curve is refused: NIST local, NIST remote of a different field
#guard !(ecdhDerive
    [(lbl 1, .int .int 2), (lbl (-1), .int .int 1), (lbl (-4), .bytes (fixedLen 32 7))] none
    [(lbl 1, .int .int 2), (lbl (-1), .int .int 2), (lbl (-2), .bytes (fixedLen 48 p384.gx)), (lbl (-3), .bytes (fixedLen 48 p384.gy))]).isOk

-- both directions agree on P-256 for two small scalars
#guard (ecdh p256 7 ((match scalarBaseMult p256 11 with | .affine x _ => x | .inf => 0)) ((match scalarBaseMult p256 11 with | .affine _ y => y | .inf => 0)))
    == (ecdh p256 11 ((match scalarBaseMult p256 7 with | .affine x _ => x | .inf => 0)) ((match scalarBaseMult p256 7 with | .affine _ y => y | .inf => 0)))

theorem x25519_remote_wrong_length_refused (pk : Key) (crv : Int) (info : Nat) (x : Bytes)
    (hc : getInt (pk.lookup (lbl Iana.EC2KeyParameterCrv)) = .ok crv) (hx25519 : ecdhCurve crv = some (EcdhCurve.x25519, info))
    (hx : getB pk Iana.EC2KeyParameterX = some x) (hl : x.length ≠ 32) :
    ecdhRemote pk = .err "x-size" := by
  unfold ecdhRemote
  simp only [hc, hx25519, hx, Option.getD_some, beq_false_of_ne hl, Bool.false_eq_true, if_false]

theorem x25519_remote_verbatim (pk : Key) (crv : Int) (info : Nat) (x : Bytes)
    (hc : getInt (pk.lookup (lbl Iana.EC2KeyParameterCrv)) = .ok crv) (hx25519 : ecdhCurve crv = some (EcdhCurve.x25519, info))
    (hx : getB pk Iana.EC2KeyParameterX = some x) (hl : x.length = 32) :
    ecdhRemote pk = .ok (.x25519 x) := by
  unfold ecdhRemote
  simp only [hc, hx25519, hx, Option.getD_some, hl, BEq.rfl, if_true]

theorem off_curve_remote_refused (pk : Key) (crv : Int) (cv : Curve) (info : Nat) (x y : Bytes)
    (hc : getInt (pk.lookup (lbl Iana.EC2KeyParameterCrv)) = .ok crv) (hn : ecdhCurve crv = some (EcdhCurve.nist cv, info))
    (hx : getB pk Iana.EC2KeyParameterX = some x) (hy : getB pk Iana.EC2KeyParameterY = some y)
    (hoff : isOnCurve cv (os2ip x) (os2ip y) = false) :
    ecdhRemote pk = .err "not-on-curve" := by
  unfold ecdhRemote
  simp only [hc, hn, hx, hy, Option.getD_some, hoff, Bool.false_eq_true, if_false]

/-- **encoding independence of an uncompressed remote key**: two keys of one NIST curve whose x and y are the same
    integers, in whatever octet strings, give the same remote point or the same refusal -/
theorem uncompressed_remote_encoding_independent (pk pk' : Key) (crv : Int) (cv : Curve) (info : Nat) (x y x' y' : Bytes)
    (hc : getInt (pk.lookup (lbl Iana.EC2KeyParameterCrv)) = .ok crv)
    (hc' : getInt (pk'.lookup (lbl Iana.EC2KeyParameterCrv)) = .ok crv)
    (hn : ecdhCurve crv = some (EcdhCurve.nist cv, info))
    (hx : getB pk Iana.EC2KeyParameterX = some x) (hy : getB pk Iana.EC2KeyParameterY = some y)
    (hx' : getB pk' Iana.EC2KeyParameterX = some x') (hy' : getB pk' Iana.EC2KeyParameterY = some y')
    (ex : os2ip x' = os2ip x) (ey : os2ip y' = os2ip y) :
    ecdhRemote pk' = ecdhRemote pk := by
  unfold ecdhRemote
  simp only [hc, hc', hn, hx, hy, hx', hy', Option.getD_some, ex, ey]

/-- **a remote key of another curve is refused**; `hmis`: an X25519 point against a NIST key or the reverse, or NIST
    curves over different fields -/
theorem other_curve_remote_refused (k remote : Key) (cur : Option (List Int)) (rp : RemotePoint)
    (hr : ecdhRemote remote = .ok rp) (crv : Int) (c : EcdhCurve) (info : Nat)
    (hk : getInt (k.lookup (lbl Iana.EC2KeyParameterCrv)) = .ok crv) (hcv : ecdhCurve crv = some (c, info))
    (hmis : match rp, c with
      | RemotePoint.x25519 _, EcdhCurve.x25519 => False
      | RemotePoint.nist rc _ _, EcdhCurve.nist cv => rc.p ≠ cv.p
      | _, _ => True) :
    (ecdhDerive k cur remote).isOk = false := by
  refine Bool.eq_false_iff.mpr fun hok => ?_
  have hm := (ecdhDerive_ok hok).sameCurve hk hcv hr
  cases rp <;> cases c
  · exact hmis hm
  · exact hm
  · exact hm
  · exact hmis

end Cose.Props.C14
