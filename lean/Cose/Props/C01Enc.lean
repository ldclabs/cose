import Cose.Props.C01
import Cose.Props.C12
/-!
# C01, COSE_Encrypt0 — a produced message decrypts to the original payload

`enc0_roundtrip` rests on `decrypt_produced` (both encryption kinds: `Decrypt` on any decoded form of what `Encrypt` produced
gives the payload back) and asks of the AEAD only that it opens what it sealed (`AeadCorrect`, proved for the three AEAD
models from C12: `*_encryptor_correct`).
-/
namespace Cose.Props.C01
open Cose.Msg Cose.Go Cose.Cbor Cose.Gen

/-- the AEAD opens what it sealed -/
def AeadCorrect (e : Encryptor) : Prop :=
  ∀ iv pt aad ct, e.encrypt iv pt aad = .ok ct → e.decrypt iv ct aad = .ok pt

/-- **`Decrypt` on the decoded form of what `Encrypt` produced gives the payload back**, both encryption kinds: `w2`
    is the decoded wire struct (same protected bytes and ciphertext), `pm` its decoded protected map, `uh` its decoded
    unprotected map, which answers look-ups like the produced `fm` -/
theorem decrypt_produced {e : Encryptor} (hcorr : AeadCorrect e) {m m1 : Msg} {payload ext : Option Bytes} {rnd : Bytes}
    (hrnd : rnd ≠ []) (hmp : m.payload = .bytes payload) (h : produceEnc m e ext rnd = .ok m1)
    {w : Wire} (hw : m1.mm = some w) {fm : CMap} (hfm : w.unprot = some fm)
    (hiv : fm.lookup (Msg.lbl Iana.HeaderParameterIV) ≠ some .bnil)
    (hpiv : fm.lookup (Msg.lbl Iana.HeaderParameterPartialIV) ≠ some .bnil)
    {pm uh : CMap} {w2 : Wire} (hmm : algMismatch pm e.key.alg = false)
    (hlook : ∀ l, uh.lookup l = (fm.lookup l).map normV) (hp2 : w2.prot = w.prot) (hy2 : w2.payload = w.payload) :
    decryptEnc ⟨m.kind, some pm, some uh, .bytes none, some w2⟩ .raw e ext = .ok (.bytes (nonEmpty payload)) := by
  obtain ⟨prot, pb, pt, iv, fm', aad, ct, -, -, hpt, hsel, htb, henc, rfl⟩ := produceEnc_wire hrnd h hw
  cases hfm
  rw [hmp] at hpt
  cases hpt
  refine decryptEnc_eq (w := w2) rfl hy2 hmm
    ((tobe_congr (w := ⟨some pb, some fm, none, none, none, none⟩) (w2 := { w2 with payload := none }) hp2 rfl _ _ _).trans htb)
    ?_ (hcorr _ _ _ _ henc) ?_
  · rw [← hsel]; exact selectNonce_decoded hlook hiv hpiv _ _
  · cases payload with
    | none => rfl
    | some l => cases l <;> rfl

theorem produceEnc_default {m m1 : Msg} {e : Encryptor} {ext : Option Bytes} {rnd : Bytes}
    (hm : m.prot = none) (har : -2147483648 ≤ e.key.alg ∧ e.key.alg ≤ 2147483647)
    (h : produceEnc m e ext rnd = .ok m1) {w : Wire} (hw : m1.mm = some w) :
    ∃ pm, (∀ x, w.prot = some x → x.length < two64) ∧ hdrFromBytes w.prot = .ok pm ∧ algMismatch pm e.key.alg = false := by
  obtain ⟨_, pb, _, _, _, _, hfp, hpb, -, -, -, -, rfl⟩ := produceEnc_ok h
  cases hw
  obtain ⟨pm, hpbl, hpm, hmm⟩ := default_bucket har (hm ▸ hfp) hpb
  exact ⟨pm, fun x hx => by cases hx; exact hpbl, hpm, hmm⟩

/-- **COSE_Encrypt0 round trip**: what `Encrypt` + `MarshalCBOR` produce, `UnmarshalCBOR` + `Decrypt` turn back into the
    original payload — for every payload, external data, key, unprotected map with scalar / list values in any entry
    order, and every way of choosing the nonce (caller's IV, Partial IV, or the library's random nonce `rnd`).  `hiv`,
    `hpiv`: a nil `[]byte` under the IV / Partial IV label travels as CBOR null and is read back as an error;
    `hrnd`: an empty published IV would make `Decrypt` draw again. -/
theorem enc0_roundtrip (payload ext : Option Bytes) (unprot : Hdr) (e : Encryptor) (rnd : Bytes)
    (hcorr : AeadCorrect e) (hrnd : rnd ≠ []) (ha : e.key.alg ≠ 0)
    (har : -2147483648 ≤ e.key.alg ∧ e.key.alg ≤ 2147483647)
    (m1 : Msg) (h : produceEnc ⟨.encrypt0, none, unprot, .bytes payload, none⟩ e ext rnd = .ok m1)
    (w : Wire) (hw : m1.mm = some w) (fm : CMap) (hfm : w.unprot = some fm)
    (hok : ∀ kv ∈ fm, EntryOk kv) (hnd : (fm.map (·.1)).Nodup) (hlen : fm.length ≤ maxElems)
    (hiv : fm.lookup (Msg.lbl Iana.HeaderParameterIV) ≠ some .bnil)
    (hpiv : fm.lookup (Msg.lbl Iana.HeaderParameterPartialIV) ≠ some .bnil)
    (hcl : ∀ x, w.payload = some x → x.length < two64) :
    ∃ bytes m2, marshal .encrypt0 w = some bytes ∧ unmarshal .encrypt0 .raw bytes = .ok m2 ∧
      decryptEnc m2 .raw e ext = .ok (.bytes (nonEmpty payload)) := by
  obtain ⟨pm, hp, hpm, hmm⟩ := produceEnc_default rfl har h hw
  obtain ⟨u', uh, hu, hlook⟩ := hdr_any_order fm hok hnd hlen
  obtain ⟨bytes, hmar, hun⟩ := enc0_decode .raw w (hfm ▸ hu) hp hcl hpm
  exact ⟨bytes, _, hmar, hun, decrypt_produced hcorr hrnd rfl h hw hfm hiv hpiv hmm hlook rfl rfl⟩

/-! ## the three AEAD models satisfy `AeadCorrect` (C12), so `enc0_roundtrip` has no cryptographic hypothesis left
for them -/

theorem gcm_encryptor_correct (kv : KeyView) (key : Bytes) :
    AeadCorrect ⟨kv, Cose.Key.gcmNonceSize, Cose.Key.gcmEncrypt key, Cose.Key.gcmDecrypt key⟩ :=
  fun iv pt aad ct h => (Cose.Props.C12.gcm_roundtrip key iv pt aad ct h).1

theorem chacha_encryptor_correct (kv : KeyView) (key : Bytes) :
    AeadCorrect ⟨kv, Cose.Key.chachaNonceSize, Cose.Key.chachaEncrypt key, Cose.Key.chachaDecrypt key⟩ :=
  fun iv pt aad ct h => (Cose.Props.C12.chacha_roundtrip key iv pt aad ct h).1

theorem ccm_encryptor_correct (kv : KeyView) (alg : Int) (halg : alg ∈ Cose.Props.C12.rfcCcm.map (·.1)) (key : Bytes) :
    AeadCorrect ⟨kv, Cose.Key.ccmNonceSize alg, Cose.Key.ccmEncrypt alg key, Cose.Key.ccmDecrypt alg key⟩ :=
  fun iv pt aad ct h => (Cose.Props.C12.ccm_roundtrip alg halg key iv pt aad ct h).1

end Cose.Props.C01
