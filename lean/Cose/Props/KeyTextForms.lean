import Cose.Key.TextForms
import Cose.Go.Roundtrip
import Cose.Props.C17
import Cose.Gen.Tables
import Cose.Gen.Footprints
/-!
# C17 — the text and JSON forms of a key are its CBOR form, octet for octet

* `text_form_is_cbor_form`, `json_form_is_cbor_form`: for **every** octet string `b` — a well-formed key, a foreign
  non-canonical one, or garbage — `UnmarshalText (hex b)` and `UnmarshalJSON ("\"" ++ hex b ++ "\"")` answer exactly
  what `UnmarshalCBOR b` answers: the same key or the same refusal.  The three encodings of a key are equivalent
  unconditionally (no hypothesis on `b`).
* `key_survives_text`, `key_survives_json`: `key_survives_cbor` carried through the two forms — same kty, alg, dispatch
  triple, registered implementation per kind, key_ops, octets.
* `json_null_is_refused`, `empty_text_refused`, `not_hex_refused`, `json_malformed_refused`: the refusals around the codec.
-/
namespace Cose.Props.KeyTextForms
open Cose.Key Cose.Key.TextForms Cose.Go Cose.Go.ByteStr Cose.Cbor

theorem text_form_is_cbor_form (b : Bytes) : cmapUnmarshalText (marshalText b) = decodeCMap b := by
  simp only [cmapUnmarshalText, text_roundtrip]

theorem json_form_is_cbor_form (b : Bytes) : cmapUnmarshalJSON (marshalJSON b) = decodeCMap b := by
  simp only [cmapUnmarshalJSON, json_roundtrip]

theorem marshalText_eq (m : CMap) (b : Bytes) (h : encodeCMap m = some b) :
    cmapMarshalText m = some (marshalText b) ∧ cmapMarshalJSON m = some (marshalJSON b) := by
  simp only [cmapMarshalText, cmapMarshalJSON, h, Option.map_some, and_self]

theorem no_cbor_no_text (m : CMap) (h : encodeCMap m = none) : cmapMarshalText m = none ∧ cmapMarshalJSON m = none := by
  simp only [cmapMarshalText, cmapMarshalJSON, h, Option.map_none, and_self]

theorem key_survives_text (k : Key) (hok : ∀ kv ∈ k, EntryOk kv) (hnd : (k.map (·.1)).Nodup)
    (hlen : k.length ≤ Cose.Cbor.maxElems) (hops : Cose.Props.C17.OpsInRange k) :
    ∃ t k', cmapMarshalText k = some t ∧ cmapUnmarshalText t = .ok k' ∧ k'.length = k.length ∧
      (∀ l, getInt (k'.lookup l) = getInt (k.lookup l)) ∧
      (∀ l, k.lookup l ≠ some .bnil → getBytes (k'.lookup l) = getBytes (k.lookup l)) ∧
      kty k' = kty k ∧ alg k' = alg k ∧ tripleKey k' = tripleKey k ∧
      (∀ kind, registered kind (tripleKey k') = registered kind (tripleKey k)) ∧
      ops k' = ops k := by
  obtain ⟨b, k', henc, hdec, rest⟩ := Cose.Props.C17.key_survives_cbor k hok hnd hlen hops
  exact ⟨marshalText b, k', (marshalText_eq k b henc).1, by rw [text_form_is_cbor_form, hdec], rest⟩

theorem key_survives_json (k : Key) (hok : ∀ kv ∈ k, EntryOk kv) (hnd : (k.map (·.1)).Nodup)
    (hlen : k.length ≤ Cose.Cbor.maxElems) (hops : Cose.Props.C17.OpsInRange k) :
    ∃ j k', cmapMarshalJSON k = some j ∧ cmapUnmarshalJSON j = .ok k' ∧ k'.length = k.length ∧
      (∀ l, getInt (k'.lookup l) = getInt (k.lookup l)) ∧
      (∀ l, k.lookup l ≠ some .bnil → getBytes (k'.lookup l) = getBytes (k.lookup l)) ∧
      kty k' = kty k ∧ alg k' = alg k ∧ tripleKey k' = tripleKey k ∧
      (∀ kind, registered kind (tripleKey k') = registered kind (tripleKey k)) ∧
      ops k' = ops k := by
  obtain ⟨b, k', henc, hdec, rest⟩ := Cose.Props.C17.key_survives_cbor k hok hnd hlen hops
  exact ⟨marshalJSON b, k', (marshalText_eq k b henc).2, by rw [json_form_is_cbor_form, hdec], rest⟩

theorem three_forms_agree (m : CMap) (b : Bytes) (h : encodeCMap m = some b) :
    ∃ t j, cmapMarshalText m = some t ∧ cmapMarshalJSON m = some j ∧
      cmapUnmarshalText t = decodeCMap b ∧ cmapUnmarshalJSON j = decodeCMap b :=
  ⟨_, _, (marshalText_eq m b h).1, (marshalText_eq m b h).2, text_form_is_cbor_form b, json_form_is_cbor_form b⟩

/-- JSON `null` is not a key: the fresh octet string stays nil and no octets are not CBOR -/
theorem json_null_is_refused : cmapUnmarshalJSON [110, 117, 108, 108] = .err := by
  with_unfolding_all rfl

/-- the empty text is the empty octet string, which is not CBOR -/
theorem empty_text_refused : cmapUnmarshalText [] = .err := by
  with_unfolding_all rfl

theorem not_hex_refused (t : Bytes) (h : unmarshalText t = none) : cmapUnmarshalText t = .err := by
  simp only [cmapUnmarshalText, h]

theorem json_malformed_refused (d : Bytes) (h : unmarshalJSON d = none) : cmapUnmarshalJSON d = .err := by
  simp only [cmapUnmarshalJSON, h]

/-! ## Regenerated tie: the shape of the twelve text / JSON functions in the source

`Gen.Tables.conds` lists every `if` / `switch` / `case` condition of every function, in source order, and
`Gen.Footprints.footprints` how each method uses its receiver; both are rewritten from `/repo` on every run.  The model
(`Key/TextForms.lean`, `Go/ByteStr.lean`) mirrors functions with exactly these branches (nil receiver, error of the inner
step; `null`, the two quotes) — a branch added to or removed from any of them makes this obligation fail to build, and the
correspondence ops `map.untext` / `map.unjson` / `dec.bytestrjson` / `dec.bytestrtext` then look for an input. -/

def condsOf (f : String) : Option (List String) := (Cose.Gen.Tables.conds.find? (fun r => r.1 == f)).map (·.2)

def recvUse (f : String) : Option (List (String × String)) :=
  (Cose.Gen.Footprints.footprints.find? (fun r => r.1 == f)).map (·.2.2)

theorem text_functions_conditions :
    condsOf "key.CoseMap.MarshalText" = some ["if err != nil"] ∧
    condsOf "key.CoseMap.MarshalJSON" = some ["if err != nil"] ∧
    condsOf "key.CoseMap.UnmarshalText" = some ["if m == nil", "if err != nil"] ∧
    condsOf "key.CoseMap.UnmarshalJSON" = some ["if m == nil", "if err != nil"] ∧
    condsOf "key.Key.MarshalText" = some [] ∧ condsOf "key.Key.MarshalJSON" = some [] ∧
    condsOf "key.Key.UnmarshalText" = some [] ∧ condsOf "key.Key.UnmarshalJSON" = some [] ∧
    condsOf "key.ByteStr.MarshalText" = some [] ∧ condsOf "key.ByteStr.MarshalJSON" = some [] ∧
    condsOf "key.ByteStr.UnmarshalText" = some ["if bstr == nil", "if err == nil"] ∧
    condsOf "key.ByteStr.UnmarshalJSON" = some ["if bstr == nil", "if s == \"null\"",
      "if len(data) < 2 || data[0] != '\"' || data[len(data)-1] != '\"'", "if err == nil"] := by
  decide +kernel

/-- the label-map methods hand their receiver to their own CBOR method and to nothing else; `Key` forwards to `CoseMap` -/
theorem text_functions_receiver_use :
    recvUse "key.CoseMap.MarshalText" = some [("recv", "self:MarshalCBOR")] ∧
    recvUse "key.CoseMap.MarshalJSON" = some [("recv", "self:MarshalCBOR")] ∧
    recvUse "key.CoseMap.UnmarshalText" = some [("recv", "self:UnmarshalCBOR")] ∧
    recvUse "key.CoseMap.UnmarshalJSON" = some [("recv", "self:UnmarshalCBOR")] ∧
    recvUse "key.Key.MarshalText" = some [("recv", "arg:key.CoseMap#0")] ∧
    recvUse "key.Key.MarshalJSON" = some [("recv", "arg:key.CoseMap#0")] ∧
    recvUse "key.Key.UnmarshalText" = some [("recv", "arg:conv:(*CoseMap)#0")] ∧
    recvUse "key.Key.UnmarshalJSON" = some [("recv", "arg:conv:(*CoseMap)#0")] := by
  decide +kernel


-- non-vacuity: a symmetric key `{1: 4, -1: h'0102'}` has the text form "a2010420420102", which decodes
#guard cmapMarshalText [(.int 1, .int .int 4), (.int (-1), .bytes [1, 2])] ==
    some [97, 50, 48, 49, 48, 52, 50, 48, 52, 50, 48, 49, 48, 50]
#guard (match cmapUnmarshalText [97, 50, 48, 49, 48, 52, 50, 48, 52, 50, 48, 49, 48, 50] with | .ok m => m.length == 2 | _ => false)

end Cose.Props.KeyTextForms
