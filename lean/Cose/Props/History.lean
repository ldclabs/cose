import Cose.Gen.Footprints
/-!
# History freedom of the message objects (C02, C03, C04; regenerated facts)

The models of verification and decryption are functions of the decoded message, the key and the external data; a Go
message object is mutable.  The facts below are re-extracted from the source on every run (`Gen/Footprints.lean`)
and are what makes the functional model faithful over *histories* of calls on one object: `UnmarshalCBOR` overwrites
every field a later `Verify` / `Decrypt` reads, and `Verify` / `Decrypt` recompute the to-be-signed / MACed /
additional-data bytes from the received bytes on every call — the cached copy (`toSign` / `toMac` / `toEnc`) is only
ever assigned and handed to the primitive, never read back.  The correspondence ops `msg.reuse` and `seq` are the
search that supports these obligations.
-/
namespace Cose.Props.History
open Cose.Gen

def fieldUses (meth field : String) : List String :=
  (Footprints.footprints.filter (fun m => m.1 == meth)).flatMap (fun m => (m.2.2.filter (fun u => u.1 == field)).map (·.2))

/-- each of these fields (`mm`: the retained wire struct) has an assignment in `UnmarshalCBOR`; a footprint does not say
    on which paths -/
theorem unmarshal_overwrites_everything_auth :
    ["cose.Sign1Message", "cose.SignMessage", "cose.Mac0Message", "cose.MacMessage"].all (fun t =>
      ["recv.Protected", "recv.Unprotected", "recv.Payload", "recv.mm"].all (fun f =>
        (fieldUses (t ++ ".UnmarshalCBOR") f).contains "assigned")) = true
    ∧ (fieldUses "cose.MacMessage.UnmarshalCBOR" "recv.recipients").contains "assigned" = true := by decide +kernel

theorem verify_recomputes_tobe :
    fieldUses "cose.Sign1Message.Verify" "recv.toSign" = ["arg:key.Verifier.Verify#0", "assigned"]
    ∧ fieldUses "cose.Mac0Message.Verify" "recv.toMac" = ["arg:key.MACer.MACVerify#0", "assigned"]
    ∧ fieldUses "cose.MacMessage.Verify" "recv.toMac" = ["arg:key.MACer.MACVerify#0", "assigned"]
    ∧ fieldUses "cose.SignMessage.Verify" "recv.toSign" = [] := by decide +kernel

theorem verify_writes_only_the_cache :
    ["cose.Sign1Message.Verify", "cose.SignMessage.Verify", "cose.Mac0Message.Verify", "cose.MacMessage.Verify"].all (fun m =>
      ["recv.Protected", "recv.Unprotected", "recv.Payload", "recv.mm", "recv.recipients"].all (fun f =>
        !(fieldUses m f).contains "assigned" && !(fieldUses m f).contains "addr")) = true := by decide +kernel


theorem unmarshal_overwrites_everything_enc :
    ["cose.Encrypt0Message", "cose.EncryptMessage"].all (fun t =>
      ["recv.Protected", "recv.Unprotected", "recv.mm"].all (fun f =>
        (fieldUses (t ++ ".UnmarshalCBOR") f).contains "assigned")) = true
    ∧ (fieldUses "cose.EncryptMessage.UnmarshalCBOR" "recv.recipients").contains "assigned" = true := by decide +kernel

/-- argument 2 of `Encryptor.Decrypt` is the additional data; a "build it only once" shortcut would add a `read` -/
theorem decrypt_recomputes_aad :
    fieldUses "cose.Encrypt0Message.Decrypt" "recv.toEnc" = ["arg:key.Encryptor.Decrypt#2", "assigned"]
    ∧ fieldUses "cose.EncryptMessage.Decrypt" "recv.toEnc" = ["arg:key.Encryptor.Decrypt#2", "assigned"] := by decide +kernel

theorem decrypt_writes_only_payload_and_cache :
    ["cose.Encrypt0Message.Decrypt", "cose.EncryptMessage.Decrypt"].all (fun m =>
      ["recv.Protected", "recv.Unprotected", "recv.mm", "recv.recipients"].all (fun f =>
        !(fieldUses m f).contains "assigned" && !(fieldUses m f).contains "addr")) = true := by decide +kernel


end Cose.Props.History
