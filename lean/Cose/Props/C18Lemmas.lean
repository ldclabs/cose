import Cose.Cwt.Lemmas
/-! What the theorems of `Props/C18.lean` assume (`NowSane`, `SkewInRange`), the rule's view of the validator options
    (`specOpts`), and the lemmas that take each stage of the validator to its clause of the rule. -/
namespace Cose.Props.C18
open Cose.Cwt Cose.Cwt.GoTime Cose.Spec.Rfc8392

/-- an int64 skew other than MinInt64 (whose negation wraps) of at most ten minutes, in nanoseconds: what `NewValidator`
    lets pass (`skew_cap`) -/
def SkewInRange (s : Int) : Prop := -9223372036854775808 < s ∧ s ≤ 600000000000

def U64 : TimeClaim → Prop
  | .secs n => n < 18446744073709551616
  | _ => True

/-- the rule's options for a validator's: the rule counts `now` from the Unix epoch, Go from year 1, 62135596800 s earlier -/
def specOpts (o : VOpts) : Opts :=
  { expectedIssuer := o.expectedIssuer, expectedAudience := o.expectedAudience,
    allowMissingExpiration := o.allowMissingExpiration, expectIssuedInThePast := o.expectIssuedInThePast,
    skewNs := o.skew, nowUnixNs := o.now.ns - 62135596800000000000 }

theorem ns_mk (s n : Int) : GoTime.ns ⟨s, n⟩ = s * 1000000000 + n := rfl
theorem wf_mk0 (s : Int) : GoTime.WF ⟨s, 0⟩ := by unfold GoTime.WF nsPerSec; simp
theorem wf_zero : GoTime.WF GoTime.zero := wf_mk0 0
theorem nsOf_eq (n : Nat) : nsOf n = (n : Int) * 1000000000 := rfl

theorem accept_iff (o : Opts) (c : Claims) :
    accept o c = true ↔ expOk o c.exp = true ∧ notAfterNowOk o c.nbf = true ∧ iatOk o c.iat = true ∧
      textOk o.expectedIssuer c.iss = true ∧ textOk o.expectedAudience c.aud = true := by
  simp only [accept, Bool.and_eq_true, and_assoc]

theorem expOk_secs (o : Opts) (n : Nat) :
    expOk o (.secs n) = true ↔ n ≤ maxRepresentable ∧ nsOf n > o.nowUnixNs - o.skewNs := by
  simp only [expOk, Bool.and_eq_true, decide_eq_true_eq]

theorem specNow (o : VOpts) : (specOpts o).nowUnixNs = o.now.ns - 62135596800000000000 := rfl
theorem specSkew (o : VOpts) : (specOpts o).skewNs = o.skew := rfl

theorem SkewInRange.int64 {s : Int} (h : SkewInRange s) : -9223372036854775808 ≤ s ∧ s < 9223372036854775808 := by
  unfold SkewInRange at h; omega

theorem SkewInRange.neg_int64 {s : Int} (h : SkewInRange s) : -9223372036854775808 ≤ -s ∧ -s < 9223372036854775808 := by
  unfold SkewInRange at h; omega

theorem neg64_skew {s : Int} (hs : SkewInRange s) : neg64 s = -s := wrap64_id hs.neg_int64.1 hs.neg_int64.2

/-- `now` is at or after the Unix epoch (62135596800 s after year 1) and less than 2^62 s after year 1 -/
def NowSane (t : GoTime) : Prop := 62135596800 ≤ t.sec ∧ t.sec < 4611686018427387904

theorem NowSane.inRange {t : GoTime} (h : NowSane t) : NowInRange t := by
  unfold NowSane at h; unfold NowInRange; omega

theorem toTime_isZero (n : Nat) : (toTime n).isZero = !decide (n ≤ maxRepresentable) := by
  by_cases he : n ≤ maxRepresentable
  · have : ¬ (n : Int) + unixToInternal = 0 := by unfold unixToInternal; omega
    rw [toTime_small he, decide_eq_true he]
    simp [GoTime.isZero, this]
  · rw [toTime_large (by omega), decide_eq_false he]; rfl

section core
variable (o : VOpts) (hnow : NowSane o.now) (hwf : o.now.WF)
include hnow hwf

/-- **the one comparison the validator makes**, `toTime(n).After(now.Add(d))`, on the rule's time line: the claim is
    representable and later than now + d.  Above the guard `toTime` answers the zero time, which nothing at or after
    year 1 precedes. -/
theorem after_now_add (n : Nat) {d : Int} (hd : -9223372036854775808 ≤ d ∧ d < 9223372036854775808) :
    (toTime n).after (o.now.add d) =
      (decide (n ≤ maxRepresentable) && decide (nsOf n > (specOpts o).nowUnixNs + d)) := by
  obtain ⟨hns, hw⟩ := add_exact (t := o.now) (d := d) hnow.inRange hwf hd.1 hd.2
  rw [specNow, nsOf_eq]
  by_cases he : n ≤ maxRepresentable
  · rw [toTime_small he, after_iff (wf_mk0 _) hw, hns, ns_mk, decide_eq_true he, Bool.true_and]
    exact decide_eq_decide.mpr (by unfold unixToInternal; omega)
  · have h0 : ¬ (0 : Int) > o.now.ns + d := by
      have hn : o.now.ns = o.now.sec * 1000000000 + o.now.nsec := rfl
      have := hnow.1
      have := hwf.1
      omega
    rw [toTime_large (by omega), after_iff wf_zero hw, hns, decide_eq_false he, Bool.false_and]
    exact decide_eq_false h0

variable (hs : SkewInRange o.skew)
include hs

theorem exp_test (e : Nat) :
    (toTime e).after (o.now.add (neg64 o.skew)) =
      (decide (e ≤ maxRepresentable) && decide (nsOf e > (specOpts o).nowUnixNs - (specOpts o).skewNs)) := by
  rw [neg64_skew hs]
  exact after_now_add o hnow hwf e hs.neg_int64

theorem nbf_test (n : Nat) : notBeforeFails o n = !(notAfterNowOk (specOpts o) (.secs n)) := by
  rw [notBeforeFails, toTime_isZero, after_now_add o hnow hwf n hs.int64, notAfterNowOk, specSkew]
  cases decide (n ≤ maxRepresentable) <;> simp

end core

theorem firstErr_ok (l : List (Option Reject)) : firstErr l = .ok ↔ ∀ x ∈ l, x = none := by
  induction l with
  | nil => simp [firstErr]
  | cons a l ih =>
    cases a with
    | none => simp [firstErr, ih]
    | some v => simp [firstErr]

section stages
variable (o : VOpts) (hnow : NowSane o.now) (hwf : o.now.WF) (hs : SkewInRange o.skew)
include hnow hwf hs

theorem stageExp_none (c : TimeClaim) : stageExp o c = none ↔ expOk (specOpts o) c = true := by
  cases c with
  | absent => simp [stageExp, expOk, specOpts]
  | invalid => simp [stageExp, expOk]
  | secs e =>
    simp only [stageExp, expOk, exp_test o hnow hwf hs e]
    cases (decide (e ≤ maxRepresentable) && decide (nsOf e > (specOpts o).nowUnixNs - (specOpts o).skewNs)) <;> simp

theorem stageNbf_none (c : TimeClaim) : stageNbf o c = none ↔ notAfterNowOk (specOpts o) c = true := by
  cases c with
  | absent => simp [stageNbf, notAfterNowOk]
  | invalid => simp [stageNbf, notAfterNowOk]
  | secs n =>
    simp only [stageNbf, nbf_test o hnow hwf hs n]
    cases notAfterNowOk (specOpts o) (.secs n) <;> simp

theorem stageIat_none (c : TimeClaim) : stageIat o c = none ↔ iatOk (specOpts o) c = true := by
  cases c with
  | absent => simp [stageIat, iatOk]
  | invalid => simp [stageIat, iatOk]
  | secs n =>
    simp only [stageIat, iatOk, nbf_test o hnow hwf hs n]
    -- the code asks `i > 0`, the rule `n != 0`; with that, a truth table over the two flags and the rule's verdict
    have hpos : decide (n > 0) = (n != 0) := by cases n <;> rfl
    have hsp : (specOpts o).expectIssuedInThePast = o.expectIssuedInThePast := rfl
    rw [hsp, hpos]
    cases n != 0 <;> cases o.expectIssuedInThePast <;> cases notAfterNowOk (specOpts o) (.secs n) <;> decide

end stages

theorem stageText_none (bad mm : Reject) (e : String) (c : TextClaim) :
    stageText bad mm e c = none ↔ textOk e c = true := by
  cases c with
  | absent => by_cases h : e = "" <;> simp [stageText, textOk, h]
  | invalid => simp [stageText, textOk]
  | text s => by_cases h : e = "" <;> by_cases h2 : e = s <;> simp [stageText, textOk, h, h2]

end Cose.Props.C18
