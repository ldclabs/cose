import Cose.Spec.PanicSites
import Cose.Props.C12
import Cose.Props.C06
import Cose.Props.C14
import Cose.Key.Impl
/-!
# C07 — no input makes a decoding, verification, key or crypto entry point panic

Three layers:
1. `panic_sites_accounted` — the inventory of panic-capable sites regenerated from the source equals the accounted
   table (`Spec/PanicSites.lean`, with the reason for each kind): a new slicing expression, unchecked assertion,
   pointer-element dereference, `panic`, or call to an external with a panicking precondition breaks it;
2. the model has a panic outcome (`Res.panic`) and produces it in two places: `xorIV` on a Partial IV longer than
   the nonce (slice bounds) and `tobe` on a to-be-authenticated literal that names an unknown field; what else the
   modelled code refuses (empty AES-MAC input, over-long CCM plaintext, a value an accessor cannot read) is an
   error.  The theorems below show that the accessors, the label check, `newSym`, the MAC and AEAD operations,
   `tobe`, nonce selection, `ecdhDerive` and `verifyAuth` never answer `panic` (nonce selection and `verifyAuth`: unless
   the base IV resp. the verifying primitive they are given does); `newSigner`, `newVerifier`, the produce operations,
   `verifySign` and `decryptEnc` hand a panic of one of their parts on and have no theorem here.  Decoders are total
   functions into `Dec` (ok / err / outside-the-model), they have no panic outcome at all;
3. every correspondence op runs under `recover` in the harness: a panic on the real code is an answer the model
   never gives, hence a reported violation; the C07 run is the malformed stream over all families
   (messages of all kinds, maps, keys, key sets, recipients, KDF contexts, claims, primitives with
   arguments of any length) plus a program that links no hash package (D15).
Partial: fxamacker and Go crypto are assumed panic-free and resource-linear on their documented domains.
-/
namespace Cose.Props.C07
open Cose.Go Cose.Key Cose.Msg

theorem panic_sites_accounted :
    Cose.Gen.PanicSites.panicSites = Cose.Spec.PanicSites.expectedPanicSites := by decide +kernel

/-- **bounded work per input** (the part of "time and memory proportional to the input" that is configuration): the shared
    decoder keeps fxamacker's default limits — the options literal in `key/cbor.go` sets nothing but duplicate-key
    enforcement and the ban on indefinite lengths, so nesting stays at 32 levels and arrays / maps at 131072 entries
    (the model's `maxNesting`, `maxElems`; checked against the library at the limit by the `cbor` family).  Raising
    `MaxNestedLevels` makes `Recipient.UnmarshalCBOR`, which re-decodes each nesting level, quadratic. -/
theorem decoder_limits_are_defaults :
    (Cose.Gen.Layouts.cborOptions.lookup "decOpts").map (fun o => o.map (·.1)) = some ["DupMapKey", "IndefLength"] ∧
    Cose.Cbor.maxNesting = 32 ∧ Cose.Cbor.maxElems = 131072 := by decide +kernel

theorem toInt_never_panics (v : GoVal) : (toInt v).isPanic = false := by
  cases v with
  | int k n => exact Res.isPanic_ite (Res.isPanic_ite rfl rfl) (Res.isPanic_ite rfl rfl)
  | _ => rfl

theorem accessors_never_panic (v : Option GoVal) :
    (getInt v).isPanic = false ∧ (getInt64 v).isPanic = false ∧ (getUint64 v).isPanic = false ∧
    (getBytes v).isPanic = false ∧ (getBool v).isPanic = false ∧ (getString v).isPanic = false := by
  cases v with
  | none => exact ⟨rfl, rfl, rfl, rfl, rfl, rfl⟩
  | some x =>
    refine ⟨toInt_never_panics x, ?_, ?_, getBytes_never_panics _, ?_, ?_⟩
    · cases x with
      | int k n => exact Res.isPanic_ite rfl (Res.isPanic_ite rfl rfl)
      | _ => rfl
    · cases x with
      | int k n => exact Res.isPanic_ite (Res.isPanic_ite rfl rfl) rfl
      | _ => rfl
    · cases x <;> rfl
    · cases x <;> rfl

theorem checkKey_never_panics (v : GoVal) : (checkKey v).isPanic = false := by
  cases v with
  | int k v => cases k <;> first | rfl | exact Res.isPanic_ite rfl rfl
  | _ => rfl

theorem newSym_never_panics (kind : String) (k : Option Key) : (newSym kind k).isPanic = false := by
  unfold newSym
  split
  · rfl
  split
  · rfl
  split
  · rfl
  · exact Res.isPanic_ite rfl rfl

theorem aesmacCreate_never_panics (alg : Int) (key data : Bytes) : (aesmacCreate alg key data).isPanic = false := by
  unfold aesmacCreate
  split
  · rfl
  · exact Res.isPanic_ite rfl rfl

theorem mac_never_panics (m : SymImpl) (cur : Option (List Int)) (data mac : Bytes) :
    (m.macCreate cur data).isPanic = false ∧ (m.macVerify cur data mac).isPanic = false := by
  have h := aesmacCreate_never_panics (alg m.key) (symKeyBytes m.key) data
  unfold SymImpl.macCreate SymImpl.macVerify
  generalize aesmacCreate (alg m.key) (symKeyBytes m.key) data = r at h
  refine ⟨Res.isPanic_ite rfl ?_, Res.isPanic_ite rfl ?_⟩
  · split
    · split <;> rfl
    · exact h
    · rfl
  · split
    · split
      · exact Res.isPanic_ite rfl rfl
      · rfl
    · cases r with
      | ok t => exact Res.isPanic_ite rfl rfl
      | err e => rfl
      | panic s => cases h
    · rfl

theorem aead_never_panics (m : SymImpl) (cur : Option (List Int)) (iv x aad : Bytes) :
    (m.encrypt cur iv x aad).isPanic = false ∧ (m.decrypt cur iv x aad).isPanic = false := by
  have hc := Cose.Props.C12.ccm_never_panics (alg m.key) (symKeyBytes m.key) iv x aad
  unfold SymImpl.encrypt SymImpl.decrypt gcmEncrypt chachaEncrypt gcmDecrypt chachaDecrypt
  refine ⟨Res.isPanic_ite rfl ?_, Res.isPanic_ite rfl ?_⟩
  · split
    · exact Res.isPanic_ite rfl (Res.isPanic_ite rfl rfl)
    · exact hc.1
    · exact Res.isPanic_ite rfl (Res.isPanic_ite rfl rfl)
    · rfl
  · split
    · refine Res.isPanic_ite rfl (Res.isPanic_ite rfl ?_)
      split <;> rfl
    · exact hc.2
    · refine Res.isPanic_ite rfl (Res.isPanic_ite rfl ?_)
      split <;> rfl
    · rfl

/-- `tobe` panics on a literal that names an unknown field; the regenerated literals name none -/
theorem tobe_never_panics (k : Kind) (w : Wire) (sp ext : Option Bytes) : (tobe k w sp ext).isPanic = false := by
  cases k <;> rfl

theorem nonce_and_ecdh_never_panic (u : CMap) (key : KeyView) (n : Nat) (hk : key.baseIV.isPanic = false)
    (k remote : Key) (cur : Option (List Int)) :
    (selectNonce u key n).isPanic = false ∧ (ecdhDerive k cur remote).isPanic = false :=
  ⟨Cose.Props.C06.selectNonce_never_panics u key n hk, Cose.Props.C14.ecdhDerive_never_panics k remote cur⟩

theorem verifyAuth_never_panics (m : Msg) (key : KeyView) (check : Bytes → Bytes → Res Unit) (ext : Option Bytes)
    (hc : ∀ a b, (check a b).isPanic = false) : (verifyAuth m key check ext).isPanic = false := by
  unfold verifyAuth
  cases hw : m.mm with
  | none => rfl
  | some w =>
    simp only
    cases ha : w.auth with
    | none => rfl
    | some a =>
      simp only
      split
      · rfl
      · have ht := tobe_never_panics m.kind w none ext
        generalize tobe m.kind w none ext = r at ht
        cases r with
        | panic s => cases ht
        | err e => rfl
        | ok tb => exact hc tb a

end Cose.Props.C07
