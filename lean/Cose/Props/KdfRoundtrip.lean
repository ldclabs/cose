import Cose.Msg.Kdf
import Cose.Msg.Roundtrip
/-!
# C09 / C04 — a COSE_KDF_Context survives encode → decode

`kdf_roundtrip`: for an algorithm identifier (int64), PartyU / PartyV information (each member absent or a byte string),
key data length (uint64), a protected bucket that encodes (`hpb`) to bytes `HeadersFromBytes` reads (`hpm`), optional
`other` and optional SuppPrivInfo, `KDFContext.MarshalCBOR` followed by `KDFContext.UnmarshalCBOR` yields the same context
(`expected`): "absent" stays absent and "present but empty" stays present, member by member (the distinction RFC 9053
§5.2 makes and HKDF inputs depend on), and the protected bucket is whatever `HeadersFromBytes` reads from the emitted
bytes.  The decoder's first-octet dispatch (0x84 / 0x85 for the context, 0x82 / 0x83 for SuppPubInfo) is part of the
model and is discharged here through `encode_arr_first` and `encode_arr_views`.
-/
namespace Cose.Props.KdfRoundtrip
open Cose.Msg Cose.Go Cose.Cbor

def PartyOk (p : PartyInfo) : Prop :=
  (∀ x, p.identity = some x → x.length < two64) ∧ (∀ x, p.nonce = some x → x.length < two64) ∧
  (∀ x, p.other = some x → x.length < two64)

theorem party_wf {p : PartyInfo} (h : PartyOk p) : WF (partyInfoSpec p) ∧ depth (partyInfoSpec p) = 1 := by
  obtain ⟨h1, h2, h3⟩ := h
  refine ⟨?_, by simp [partyInfoSpec, depth, depthList, depth_bytesCbor]⟩
  simp only [partyInfoSpec, WF, WFList, maxElems, List.length_cons, List.length_nil]
  exact ⟨by omega, wf_bytesCbor _ h1, wf_bytesCbor _ h2, wf_bytesCbor _ h3, trivial⟩

theorem party_field (p : PartyInfo) : partyInfoField (partyInfoSpec p) = .ok p := by
  simp only [partyInfoField, partyInfoSpec, untag_arr, bytesField_bytesCbor]

theorem intField_ofInt {a : Int} (h : -9223372036854775808 ≤ a ∧ a < 9223372036854775808) :
    intField (Cbor.ofInt a) = .ok a := by
  unfold Cbor.ofInt
  split
  -- either sign: the argument is below 2⁶³, and is the value again
  all_goals
    simp only [intField, bignumTagged, untag, Bool.false_eq_true, if_false]
    rw [if_pos (by omega)]
    congr 1; omega

/-- the decoded context: everything as it was, the protected bucket as read from its emitted bytes -/
def expected (c : KdfContext) (pm : CMap) : KdfContext :=
  { c with suppPub := { c.suppPub with prot := some pm } }

theorem suppPub_roundtrip {s : SuppPubInfo} {pb : Bytes} {pm : CMap} (hk : s.keyDataLength < two64)
    (hpb : hdrBytes s.prot = .ok pb) (hpl : pb.length < two64) (hpm : hdrFromBytes (some pb) = .ok pm)
    (ho : ∀ x, s.other = some x → x.length < two64) :
    ∃ sp, suppPubSpec s = some sp ∧ WF sp ∧ depth sp = 1 ∧
      suppPubField (encode sp) sp = .ok ⟨s.keyDataLength, some pm, s.other⟩ := by
  unfold suppPubSpec
  rw [hpb]
  cases hoth : s.other with
  | none =>
    obtain ⟨rest, hr⟩ : ∃ rest, encode (.arr [.uint s.keyDataLength, .bstr pb]) = 0x82 :: rest :=
      encode_arr_first _ (by simp)
    refine ⟨_, rfl, ⟨by simp [maxElems], hk, hpl, trivial⟩, by simp [depth, depthList], ?_⟩
    rw [hr]
    simp only [suppPubField, uintField, bignumTagged, untag, bytesField, hpm, Bool.false_eq_true, if_false]
  | some o =>
    obtain ⟨rest, hr⟩ : ∃ rest, encode (.arr [.uint s.keyDataLength, .bstr pb, .bstr o]) = 0x83 :: rest :=
      encode_arr_first _ (by simp)
    refine ⟨_, rfl, ⟨by simp [maxElems], hk, hpl, ho o hoth, trivial⟩, by simp [depth, depthList], ?_⟩
    rw [hr]
    simp only [suppPubField, uintField, bignumTagged, untag, bytesField, hpm, Bool.false_eq_true, if_false]

theorem kdf_roundtrip (c : KdfContext) (pb : Bytes) (pm : CMap)
    (ha : -9223372036854775808 ≤ c.algorithmID ∧ c.algorithmID < 9223372036854775808)
    (hu : PartyOk c.partyU) (hv : PartyOk c.partyV) (hk : c.suppPub.keyDataLength < two64)
    (hpb : hdrBytes c.suppPub.prot = .ok pb) (hpl : pb.length < two64) (hpm : hdrFromBytes (some pb) = .ok pm)
    (ho : ∀ x, c.suppPub.other = some x → x.length < two64) (hp : ∀ x, c.suppPriv = some x → x.length < two64) :
    ∃ b, kdfEncode c = some b ∧ kdfDecode b = .ok (expected c pm) := by
  have haw := wf_ofInt c.algorithmID ⟨ha.1, by omega⟩
  have had := depth_ofInt c.algorithmID
  obtain ⟨huw, hud⟩ := party_wf hu
  obtain ⟨hvw, hvd⟩ := party_wf hv
  obtain ⟨sp, hsp, hspw, hspd, hspf⟩ := suppPub_roundtrip hk hpb hpl hpm ho
  unfold kdfEncode kdfContextSpec
  rw [hsp]
  -- both arities: the first octet passes the 0x84 / 0x85 dispatch, the strict decoder and the raw view give the members
  cases hpr : c.suppPriv with
  | none =>
    obtain ⟨rest, hr, hdec, hraw⟩ := encode_arr_views (b0 := 0x84)
      (xs := [Cbor.ofInt c.algorithmID, partyInfoSpec c.partyU, partyInfoSpec c.partyV, sp])
      ⟨by simp [maxElems], haw, huw, hvw, hspw, trivial⟩
      (by simp only [depth, depthList, had, hud, hvd, hspd, maxNesting]; omega) (encode_arr_first _ (by simp))
    refine ⟨_, rfl, ?_⟩
    rw [hr]
    simp only [kdfDecode, hdec, hraw, List.map_cons, List.map_nil, intField_ofInt ha, party_field, hspf]
    simp [expected, hpr]
  | some pr =>
    obtain ⟨rest, hr, hdec, hraw⟩ := encode_arr_views (b0 := 0x85)
      (xs := [Cbor.ofInt c.algorithmID, partyInfoSpec c.partyU, partyInfoSpec c.partyV, sp, .bstr pr])
      ⟨by simp [maxElems], haw, huw, hvw, hspw, hp pr hpr, trivial⟩
      (by simp only [depth, depthList, had, hud, hvd, hspd, maxNesting]; omega) (encode_arr_first _ (by simp))
    refine ⟨_, rfl, ?_⟩
    -- `kdfContextSpec` appends SuppPrivInfo to the four other members with `++`
    rw [List.cons_append, List.cons_append, List.cons_append, List.cons_append, List.nil_append, hr]
    simp only [kdfDecode, hdec, hraw, List.map_cons, List.map_nil, intField_ofInt ha, party_field, hspf, bytesField]
    simp [expected, hpr]

/-- `expected c pm` differs from `c` in the protected bucket only; that the members come back so, an absent one absent
    and an empty one empty, is `kdf_roundtrip` -/
theorem kdf_roundtrip_presence (c : KdfContext) (pm : CMap) :
    (expected c pm).partyU = c.partyU ∧ (expected c pm).partyV = c.partyV ∧
    (expected c pm).suppPub.other = c.suppPub.other ∧ (expected c pm).suppPriv = c.suppPriv ∧
    (expected c pm).algorithmID = c.algorithmID ∧ (expected c pm).suppPub.keyDataLength = c.suppPub.keyDataLength :=
  ⟨rfl, rfl, rfl, rfl, rfl, rfl⟩

-- non-vacuity: a context with an empty-but-present identity, an absent nonce, `other` present and empty, SuppPrivInfo present
def sample : KdfContext := ⟨-6, ⟨some [], none, some [1]⟩, ⟨none, some [2, 3], none⟩, ⟨128, none, some []⟩, some [9]⟩

theorem party_small (p : PartyInfo)
    (h : ∀ x, (p.identity = some x ∨ p.nonce = some x ∨ p.other = some x) → x.length < 100) : PartyOk p := by
  have small : ∀ {n : Nat}, n < 100 → n < two64 := fun hn => by unfold two64; omega
  exact ⟨fun x hx => small (h x (.inl hx)), fun x hx => small (h x (.inr (.inl hx))),
    fun x hx => small (h x (.inr (.inr hx)))⟩

example : ∃ b, kdfEncode sample = some b ∧ kdfDecode b = .ok (expected sample []) := by
  refine kdf_roundtrip sample [] [] (by decide) (party_small _ ?_) (party_small _ ?_) (by decide) rfl (by decide) rfl ?_ ?_
  · intro x h; rcases h with h | h | h <;> cases h <;> decide
  · intro x h; rcases h with h | h | h <;> cases h <;> decide
  · intro x h; cases h; decide
  · intro x h; cases h; decide

end Cose.Props.KdfRoundtrip
