import Cose.Gen.Tables
/-! # C14 — regenerated tie: the decisions of `ECDHer.ECDH` (see the header of `PrimShapeMac.lean`) -/
namespace Cose.Props.PrimShapeEcdh

def condsOf (f : String) : Option (List String) := (Cose.Gen.Tables.conds.find? (fun r => r.1 == f)).map (·.2)

/-- C14: the gate, then every private remote key refused, then the conversion's verdict -/
theorem ecdh_conditions :
    condsOf "key_ecdh.ECDHer.ECDH" = some ["if !ops.EmptyOrHas(iana.KeyOperationDeriveKey) && !ops.EmptyOrHas(iana.KeyOperationDeriveBits)",
      "if remotePublic.Has(iana.EC2KeyParameterD)", "if err != nil"] := by
  decide +kernel

end Cose.Props.PrimShapeEcdh
