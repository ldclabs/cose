import Cose.Msg.Layout
import Cose.Spec.Rfc9052
import Cose.Cbor.Corollaries
/-!
# C04 — signed, MACed and AAD bytes are the exact RFC 9052 structures of the wire bytes

`Cose.Msg.toBe Gen.Layouts.tb_<kind>` evaluates the `[]any{…}` literal **as extracted from the source on this
run**; `tobe_sign1_eq_spec` here (COSE_Sign1) and `Authd.tobe_is_authd` (all six kinds) state that, for every protected
string, payload and external data (present, empty or nil), it is the RFC 9052 structure — so dropping `external_aad`,
reordering members, editing a context string or re-encoding a member breaks a theorem at kernel level.  The arguments are
the *wire* fields (`mm.Protected`, `mm.Payload`): the correspondence op `msg.tobe` checks with recording
Signer/MACer/Encryptor wrappers that the library passes exactly these bytes on both the produce and the verify side,
including for non-canonical protected buckets.  `sigStructure1_injective`: the encoded structure determines its items
(all six kinds: `Authd.authd_injective`, which uses the well-formedness lemmas of this file).
-/
namespace Cose.Props.C04
open Cose.Msg Cose.Cbor Cose.Spec.Rfc9052 Cose.Gen.Layouts

theorem tobe_sign1_eq_spec (prot payload ext : Option Bytes) :
    toBe tb_sign1Message (fields3 prot payload) (paramsExt ext) = some (sigStructure1 prot ext payload) := by
  rfl

/-- **absent external data is the empty string**: `nil` and `[]byte{}` give the same to-be-signed bytes (COSE_Sign1) -/
theorem external_nil_is_empty (prot payload : Option Bytes) :
    toBe tb_sign1Message (fields3 prot payload) (paramsExt none) =
      toBe tb_sign1Message (fields3 prot payload) (paramsExt (some [])) := by
  rw [tobe_sign1_eq_spec, tobe_sign1_eq_spec]; rfl

/-- the six context strings of RFC 9052; that the structures of two kinds differ is `Authd.kinds_separate` -/
theorem contexts_distinct :
    [ctxSignature1, ctxSignature, ctxMAC0, ctxMAC, ctxEncrypt0, ctxEncrypt].Nodup := by decide

def WFb (b : Option Bytes) : Prop := ∀ x, b = some x → x.length < two64

theorem wf_asInMessage {b : Option Bytes} : WF (asInMessage b) ↔ WFb b := by
  cases b <;> simp [asInMessage, Cbor.null, WF, WFb]

theorem asInMessage_inj {a b : Option Bytes} : asInMessage a = asInMessage b ↔ a = b :=
  ⟨fun h => by cases a <;> cases b <;> cases h <;> rfl, congrArg _⟩

theorem wf_ctx : ∀ c ∈ [ctxSignature1, ctxSignature, ctxMAC0, ctxMAC, ctxEncrypt0, ctxEncrypt], WF (.tstr c) := by
  simp only [WF, two64]
  decide

theorem wf_ext {e : Option Bytes} : WF (externalAad e) ↔ WFb e := by
  cases e <;> simp [externalAad, WF, WFb, two64]

theorem externalAad_inj {e e' : Option Bytes} : externalAad e = externalAad e' ↔ e.getD [] = e'.getD [] := by
  simp only [externalAad, Cbor.bstr.injEq]

theorem wf_structure {c : Bytes} (hc : c ∈ [ctxSignature1, ctxSignature, ctxMAC0, ctxMAC, ctxEncrypt0, ctxEncrypt])
    {items : List Cbor} (hi : WFList items) (hl : items.length ≤ 4) : WF (.arr (.tstr c :: items)) :=
  ⟨by simp only [List.length_cons, maxElems]; omega, wf_ctx c hc, hi⟩

theorem wf_sigStructure1 {p e y : Option Bytes} (hp : WFb p) (he : WFb e) (hy : WFb y) :
    WF (sigStructure1 p e y) :=
  wf_structure (by simp) ⟨wf_asInMessage.mpr hp, wf_ext.mpr he, wf_asInMessage.mpr hy, trivial⟩ (by simp)

/-- **two COSE_Sign1 to-be-signed values coincide only if every authenticated item coincides** (external data up to
    absent = empty): no splice of protected / external / payload bytes yields the same signed bytes -/
theorem sigStructure1_injective (p p' e e' y y' : Option Bytes)
    (hp : WFb p) (he : WFb e) (hy : WFb y) (hp' : WFb p') (he' : WFb e') (hy' : WFb y')
    (h : encode (sigStructure1 p e y) = encode (sigStructure1 p' e' y')) :
    p = p' ∧ e.getD [] = e'.getD [] ∧ y = y' := by
  have := encode_inj (wf_sigStructure1 hp he hy) (wf_sigStructure1 hp' he' hy') h
  simpa only [sigStructure1, Cbor.arr.injEq, List.cons.injEq, and_true, true_and, asInMessage_inj, externalAad_inj]
    using this

end Cose.Props.C04
