import Cose.Key.Prims
import Cose.Crypto.ConstructionLemmas
import Cose.Key.HkdfReader
/-!
# C13 — HKDF-SHA and HKDF-AES derive exactly the RFC 5869 / RFC 9053 output

`Cose.Crypto.hkdf*` is RFC 5869 written over an arbitrary PRF; HKDF-SHA-256/512 instantiate it with HMAC,
HKDF-AES-128/256 with the library's own AES-CBC-MAC (zero IV, zero padding only when unaligned — the same
`cbcMacFull` as C11).  The prefix property and the 255-block limit are proved for every PRF (`hkdfExpand_prefix`,
`hkdfExpand_limit`; here their instances `hkdfAes_*`, `hkdf256_*`, `hkdf512_*`, 4080 = 255 · 16).  The Go reader
`aesHKDF` (uint8 counter, leftover buffer) is modelled as `AesHkdf.read`; `reader_chunking_limit` /
`reader_chunking_value` prove, by an invariant over every history of reads (`Cose.Key.HkdfReader`), that any
chunking hands out exactly the one-shot output and stops at 255 blocks.  Equality of the library's bytes with
these definitions (one-shot, and per chunk for generated chunkings incl. those that cross the limit) is the
correspondence `prim.hkdf*`.
-/
namespace Cose.Props.C13
open Cose.Key Cose.Crypto

theorem hkdfAes_prefix (E : Bytes → Bytes) (hE : ∀ b, (E b).length = 16) (info : Bytes) (l l' : Nat)
    (h : l ≤ l') (hmax : l' ≤ 4080) :
    hkdfAesSpec E info l = (hkdfAesSpec E info l').map (·.take l) :=
  hkdfExpand_prefix (aesPrf E) 16 (by decide) (aesPrf_len E hE) [] info h hmax

theorem hkdfAes_limit (E : Bytes → Bytes) (info : Bytes) (l : Nat) :
    (hkdfAesSpec E info l).isSome = decide (l ≤ 4080) :=
  hkdfExpand_limit (aesPrf E) 16 [] info l

theorem hkdfAes_length (E : Bytes → Bytes) (hE : ∀ b, (E b).length = 16) (info : Bytes) (l : Nat) (out : Bytes)
    (h : hkdfAesSpec E info l = some out) : out.length = l :=
  hkdfExpand_length (aesPrf E) 16 (by decide) (aesPrf_len E hE) h

/-- `prev ++ info ++ [c]` is the PRF input T(n−1) ‖ info ‖ n of a block: aligned, it is chained without a padding block -/
theorem hkdfAes_block_no_extra_padding (E : Bytes → Bytes) (prev info : Bytes) (c : UInt8)
    (h : (prev ++ info ++ [c]).length % 16 = 0) :
    cbcMacFull E (prev ++ info ++ [c]) =
      cbcChain E ((prev ++ info ++ [c]).length / 16) (zeros 16) (prev ++ info ++ [c]) :=
  cbcMacFull_aligned E h

theorem hkdf256_prefix (hsha : ∀ m, (sha256 m).length = 32) (secret salt info : Bytes) (l l' : Nat)
    (h : l ≤ l') (hmax : l' ≤ 255 * 32) :
    hkdf256 secret salt info l = (hkdf256 secret salt info l').map (·.take l) :=
  hkdfExpand_prefix _ 32 (by decide) (hmac_length _ 32 hsha 64) _ info h hmax

theorem hkdf512_prefix (hsha : ∀ m, (sha512 m).length = 64) (secret salt info : Bytes) (l l' : Nat)
    (h : l ≤ l') (hmax : l' ≤ 255 * 64) :
    hkdf512 secret salt info l = (hkdf512 secret salt info l').map (·.take l) :=
  hkdfExpand_prefix _ 64 (by decide) (hmac_length _ 64 hsha 128) _ info h hmax

theorem hkdf256_limit (secret salt info : Bytes) (l : Nat) :
    (hkdf256 secret salt info l).isSome = decide (l ≤ 255 * 32) :=
  hkdfExpand_limit _ 32 _ info l

theorem hkdf512_limit (secret salt info : Bytes) (l : Nat) :
    (hkdf512 secret salt info l).isSome = decide (l ≤ 255 * 64) :=
  hkdfExpand_limit _ 64 _ info l

theorem reader_limit_fresh (E : Bytes → Bytes) (info : Bytes) (n : Nat) (h : n > 4080) :
    (AesHkdf.init info).read E n = none := by
  unfold AesHkdf.read AesHkdf.init
  have : ((255 : UInt8) - 1 + 1).toNat = 255 := by decide
  simp only [List.length_nil, this]
  exact if_pos (by omega)

/-- **the Go reader under every chunking — limit**: successive `Read`s of sizes `ns` on a fresh `aesHKDF` all succeed
    iff they total at most 255 blocks (4080 octets) -/
theorem reader_chunking_limit (E : Bytes → Bytes) (hE : ∀ b, (E b).length = 16) (info : Bytes) (ns : List Nat) :
    (AesHkdf.reads E (AesHkdf.init info) ns).isSome = decide (ns.sum ≤ 4080) := by
  rw [reads_eq hE ns (rinv_init E info), Nat.zero_add]
  split <;> simp [*]

/-- **the Go reader under every chunking — value**: when successive `Read`s of sizes `ns` on a fresh `aesHKDF` succeed,
    each chunk has the length asked for and together they are the one-shot HKDF-AES output of the total length -/
theorem reader_chunking_value (E : Bytes → Bytes) (hE : ∀ b, (E b).length = 16) (info : Bytes) (ns : List Nat)
    (bs : List Bytes) (h : AesHkdf.reads E (AesHkdf.init info) ns = some bs) :
    some bs.flatten = hkdfAesSpec E info ns.sum ∧ bs.map List.length = ns := by
  rw [reads_eq hE ns (rinv_init E info), Nat.zero_add] at h
  obtain ⟨ht, rfl⟩ := Option.ite_some_none_eq_some.mp h
  rw [hkdfAesSpec_eq_take E info hE ht, cut_flatten]
  exact ⟨rfl, cut_lengths ns _ (by rw [List.drop_zero, full_length E info hE]; exact ht)⟩

theorem reader_single_read (E : Bytes → Bytes) (hE : ∀ b, (E b).length = 16) (info : Bytes) (n : Nat) :
    ((AesHkdf.init info).read E n).map (·.1) = hkdfAesSpec E info n := by
  by_cases h : n ≤ 4080
  · obtain ⟨s', g', hr, _⟩ := read_ok hE (rinv_init E info) n (by omega)
    rw [hr, hkdfAesSpec_eq_take E info hE h]; rfl
  · rw [read_refused hE (rinv_init E info) n (by rwa [Nat.zero_add]), hkdfAesSpec, hkdfExpand, if_pos (by omega)]
    rfl

-- RFC 5869 A.1 (HKDF-SHA-256), first octets; a chunked read against the one-shot output
#guard (hkdf256 (List.replicate 22 0x0b) [0,1,2,3,4,5,6,7,8,9,10,11,12] [0xf0,0xf1,0xf2,0xf3,0xf4,0xf5,0xf6,0xf7,0xf8,0xf9] 42).map (·.take 4)
  == some [0x3c, 0xb2, 0x5f, 0x25]
#guard match aesE (zeros 16) with
  | some E => (AesHkdf.reads E (AesHkdf.init [1,2,3]) [5, 16, 0, 30]).map List.flatten == hkdfAesSpec E [1,2,3] 51
  | none => false

end Cose.Props.C13
