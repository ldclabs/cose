import Cose.Msg.Ops
/-!
# C01 / C02 — COSE_Sign verification does not depend on the order of the verifier list

`verifySign_verifier_order`: `SignMessage.Verify` finds the verifier of each signature by key id (`Verifiers.Lookup`), so
with pairwise different key ids any permutation of the verifier list gives the same result for every message — the same
acceptance, the same refusal.  (With two verifiers under one key id the *first* one is used: `lookup_is_first`.)
-/
namespace Cose.Props.SignOrder
open Cose.Go Cose.Msg

theorem find_perm_of_unique {α} (p : α → Bool) {l l' : List α} (hp : l'.Perm l)
    (hu : l.Pairwise fun a b => p a = true → p b = true → False) : l'.find? p = l.find? p := by
  -- `find?` is the head of `filter`; the filtered lists are permutations of each other and, holding at most one element,
  -- both sorted by the empty relation
  have hl : (l.filter p).Pairwise fun _ _ => False := List.pairwise_filter.mpr hu
  rw [← List.head?_filter, ← List.head?_filter,
    (hp.filter p).eq_of_pairwise (fun _ _ _ _ h => h.elim) (hl.perm (hp.filter p).symm id) hl]

def keyId (v : Verifier) : Bytes := v.key.kid.getD []

theorem lookupVerifier_perm {vs vs' : List Verifier} (hp : vs'.Perm vs) (hnd : (vs.map keyId).Nodup) (kid : Option Bytes) :
    lookupVerifier vs' kid = lookupVerifier vs kid :=
  find_perm_of_unique _ hp ((List.pairwise_map.mp hnd).imp fun hne ha hb => hne ((eq_of_beq ha).trans (eq_of_beq hb).symm))

/-- `Verify` sees the verifier list only through its emptiness and `Verifiers.Lookup` -/
theorem verifySign_congr (m : Msg) {vs vs' : List Verifier} (he : vs'.isEmpty = vs.isEmpty)
    (hl : ∀ kid, lookupVerifier vs' kid = lookupVerifier vs kid) (ext : Option Bytes) :
    verifySign m vs' ext = verifySign m vs ext := by
  simp only [verifySign, he, verifySign_go_congr hl rfl rfl]

/-- **the order of the verifier list does not matter** (pairwise different key ids) -/
theorem verifySign_verifier_order (m : Msg) {vs vs' : List Verifier} (hp : vs'.Perm vs) (hnd : (vs.map keyId).Nodup)
    (ext : Option Bytes) : verifySign m vs' ext = verifySign m vs ext :=
  verifySign_congr m hp.isEmpty_eq (lookupVerifier_perm hp hnd) ext

/-- a verifier at the head of the list whose key id matches is the one found, whatever follows it: of two verifiers under
    one key id the first is asked -/
theorem lookup_is_first (v : Verifier) (rest : List Verifier) (kid : Option Bytes) (h : keyId v = kid.getD []) :
    lookupVerifier (v :: rest) kid = some v := by
  unfold lookupVerifier keyId at *
  simp [h]

/-- the premise is satisfiable: two verifiers with different key ids, listed either way round -/
example : ([⟨⟨-7, some [1], .ok none⟩, fun _ _ => .ok ()⟩, ⟨⟨-8, some [2], .ok none⟩, fun _ _ => .ok ()⟩] : List Verifier).Perm
    [⟨⟨-8, some [2], .ok none⟩, fun _ _ => .ok ()⟩, ⟨⟨-7, some [1], .ok none⟩, fun _ _ => .ok ()⟩] ∧
    (([⟨⟨-8, some [2], .ok none⟩, fun _ _ => .ok ()⟩, ⟨⟨-7, some [1], .ok none⟩, fun _ _ => .ok ()⟩] : List Verifier).map keyId).Nodup :=
  ⟨List.Perm.swap _ _ _, by decide⟩

end Cose.Props.SignOrder
