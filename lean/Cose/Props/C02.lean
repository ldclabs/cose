import Cose.Props.Authd
import Cose.Msg.Ops
import Cose.Go.Lemmas
/-!
# C02 — tampered, spliced or mis-keyed signed/MACed messages never verify

What a theorem can say here is a **reduction**: if verification succeeds, then the primitive accepted exactly the
RFC 9052 structure built from the *received* protected bytes, payload bytes and the caller's external data,
together with the received signature/tag; and two different (protected, external, payload) triples never give the
same structure (injectivity, from the CBOR round trip).  Hence any accepted alteration of an authenticated item
is a forgery against the primitive.  That forgeries do not exist is the primitives' security assumption
(DESIGN §8); the executable model additionally predicts the verdict of every concrete mutated message in the
correspondence run (`msg:C02`).

`verify_sound` is the reduction for COSE_Sign1 / COSE_Mac0 / COSE_Mac, `sign_every_signature_checked` for COSE_Sign (with
`sign_null_entry_rejected`: the decoded list has one signature object per wire element); injectivity is
`Authd.tamper_is_forgery`, of which `sign1_tamper_is_forgery` is the COSE_Sign1 case.
-/
namespace Cose.Props.C02
open Cose.Msg Cose.Go Cose.Cbor Cose.Spec.Rfc9052 Cose.Gen Cose.Props.Authd

/-- **soundness of Sign1 / Mac0 / Mac verification** -/
theorem verify_sound (m : Msg) (key : KeyView) (check : Bytes → Bytes → Res Unit) (ext : Option Bytes)
    (h : verifyAuth m key check ext = .ok ()) :
    ∃ w a tb, m.mm = some w ∧ w.auth = some a ∧ algMismatch (m.prot.getD []) key.alg = false ∧
      tobe m.kind w none ext = .ok tb ∧ check tb a = .ok () := by
  unfold verifyAuth at h
  split at h <;> try cases h
  split at h <;> try cases h
  split at h <;> try cases h
  split at h <;> try cases h
  exact ⟨_, _, _, ‹_›, ‹_›, Bool.eq_false_iff.mpr ‹_›, ‹_›, h⟩

/-- **tampering is forgery** (COSE_Sign1): protected bytes, payload or external data (absent = empty) that differ give
    different to-be-signed bytes; with `verify_sound`, a message that verifies after such a change carries a signature that
    the verifier accepted over bytes other than the signed ones. -/
theorem sign1_tamper_is_forgery (w w' : Wire) (ext ext' : Option Bytes)
    (hw : Cose.Props.C04.WFb w.prot ∧ Cose.Props.C04.WFb w.payload ∧ Cose.Props.C04.WFb ext)
    (hw' : Cose.Props.C04.WFb w'.prot ∧ Cose.Props.C04.WFb w'.payload ∧ Cose.Props.C04.WFb ext')
    (hdiff : w.prot ≠ w'.prot ∨ w.payload ≠ w'.payload ∨ ext.getD [] ≠ ext'.getD []) :
    tobe .sign1 w none ext ≠ tobe .sign1 w' none ext' := by
  intro h
  -- the signer's bucket is read for COSE_Sign only: any value will do here
  have := tamper_is_forgery .sign1 .sign1 w w' [] [] ext ext' hw.1 hw.2.1 hw.2.2 (by simp [two64])
    hw'.1 hw'.2.1 hw'.2.2 (by simp [two64]) h
  simp only [authdOf, Authd.norm, normExt, Authd.sign1.injEq, Option.some.injEq] at this
  obtain ⟨hp, he, hy⟩ := this
  rcases hdiff with d | d | d
  · exact d hp
  · exact d hy
  · exact d he

/-- Signature1 against MAC0 over the same fields, without the length hypotheses of `Authd.kinds_separate` (all pairs of
    kinds) -/
theorem kind_change_changes_bytes (w : Wire) (ext : Option Bytes) : tobe .sign1 w none ext ≠ tobe .mac0 w none ext := by
  have h1 := tobe_is_authd .sign1 w [] ext
  have h2 := tobe_is_authd .mac0 w [] ext
  simp only [libTobe] at h1 h2
  rw [h1, h2]
  intro h
  simp only [Res.ok.injEq, authdOf, Authd.cbor, sigStructure1, macStructure0, encode, encodeList] at h
  -- the two encodings start `84 6a "Signature1"…` and `84 64 "MAC0"…`: they differ at byte 1
  have := congrArg (fun l => l[1]?) h
  simp [head, ctxSignature1, ctxMAC0, u8] at this

theorem sign_no_signatures_rejected (m : Msg) (w : Wire) (hw : m.mm = some w) (hs : w.sigs = some [])
    (vs : List Verifier) (ext : Option Bytes) : verifySign m vs ext ≠ .ok () := by
  unfold verifySign
  by_cases hv : vs.isEmpty <;> simp [hv, hw, hs]

theorem sign_no_verifiers_rejected (m : Msg) (ext : Option Bytes) : verifySign m [] ext ≠ .ok () := by
  unfold verifySign; simp

/-- the first-entry case, with its error; every entry: `sign_every_signature_checked` -/
theorem sign_unmatched_kid_rejected (m : Msg) (w : Wire) (s : SigObj) (rest : List SigObj) (hw : m.mm = some w)
    (hs : w.sigs = some (s :: rest)) (vs : List Verifier) (hne : vs ≠ []) (ext : Option Bytes)
    (hl : lookupVerifier vs s.kid = none) : verifySign m vs ext = .err "no-verifier" := by
  rw [verifySign_eq hw hs hne (List.cons_ne_nil _ _)]
  simp [verifySign.go, hl]

theorem lookup_exact (vs : List Verifier) (kid : Option Bytes) (v : Verifier) (h : lookupVerifier vs kid = some v) :
    v.key.kid.getD [] = kid.getD [] ∧ v ∈ vs :=
  find?_attr_some h

/-- the first-entry case, with the verifier's error (`hv`: it refuses whatever the to-be-signed bytes); every entry:
    `sign_every_signature_checked` -/
theorem sign_first_signature_must_verify (m : Msg) (w : Wire) (s : SigObj) (rest : List SigObj) (hw : m.mm = some w)
    (hs : w.sigs = some (s :: rest)) (vs : List Verifier) (hne : vs ≠ []) (ext : Option Bytes) (v : Verifier)
    (hl : lookupVerifier vs s.kid = some v) (ha : algMismatch s.prot v.key.alg = false) (raw : Bytes)
    (hr : s.protRaw = some raw) (e : String)
    (hv : ∀ tb, v.verify tb (s.signature.getD []) = .err e) : verifySign m vs ext = .err e := by
  rw [verifySign_eq hw hs hne (List.cons_ne_nil _ _)]
  simp only [verifySign.go, hl, ha, hr, Bool.false_eq_true, if_false]
  have := tobe_is_authd .sign w raw ext
  simp only [libTobe] at this
  simp [this, hv]

/-- what it means for one COSE_Signature to have been checked: a verifier was found under its kid, its protected
    algorithm agrees with that verifier's key, and the verifier accepted the signature over the Sig_structure built
    from the signer's *received* protected bytes (for a signature object that keeps none, `spb` is not constrained) -/
def SigChecked (vs : List Verifier) (ext : Option Bytes) (w : Wire) (s : SigObj) : Prop :=
  ∃ v spb tb, lookupVerifier vs s.kid = some v ∧ algMismatch s.prot v.key.alg = false ∧
    (∀ raw, s.protRaw = some raw → spb = raw) ∧
    tobe .sign w (some spb) ext = .ok tb ∧ v.verify tb (s.signature.getD []) = .ok ()

theorem verifySign_go_ok (vs : List Verifier) (ext : Option Bytes) (w : Wire) :
    ∀ sigs, verifySign.go vs ext w sigs = .ok () → ∀ s ∈ sigs, SigChecked vs ext w s
  | [], _ => fun _ hs => nomatch hs
  | s0 :: rest, h => by
    unfold verifySign.go at h
    split at h <;> try cases h
    split at h <;> try cases h
    simp only at h
    split at h <;> try cases h
    rename_i spb hspb
    split at h <;> try cases h
    split at h <;> try cases h
    rename_i u hv
    have hraw : ∀ raw, s0.protRaw = some raw → spb = raw := fun raw hr => by
      rw [hr] at hspb; exact (Res.ok.inj hspb).symm
    exact List.forall_mem_cons.mpr
      ⟨⟨_, spb, _, ‹_›, Bool.eq_false_iff.mpr ‹_›, hraw, ‹_›, by rw [hv]⟩, verifySign_go_ok vs ext w rest h⟩

/-- **COSE_Sign: verification succeeds only if every COSE_Signature of the message was checked** — each one against
    the verifier found under *its own* kid, over *its own* received protected bytes.  Two entries sharing a kid are
    two checks; none is skipped, whatever the order or number of entries. -/
theorem sign_every_signature_checked (m : Msg) (vs : List Verifier) (ext : Option Bytes)
    (h : verifySign m vs ext = .ok ()) :
    ∃ w sigs, m.mm = some w ∧ w.sigs = some sigs ∧ sigs ≠ [] ∧ ∀ s ∈ sigs, SigChecked vs ext w s := by
  unfold verifySign at h
  split at h <;> try cases h
  split at h <;> try cases h
  split at h <;> try cases h
  split at h <;> try cases h
  exact ⟨_, _, ‹_›, ‹_›, mt List.isEmpty_iff.mpr ‹_›, verifySign_go_ok vs ext _ _ h⟩

theorem sigField_ok_shape {c : Cbor} {s : SigObj} (h : sigField c = .ok s) : ∃ p u g, untag c = .arr [p, u, g] := by
  unfold sigField at h
  split at h
  · exact ⟨_, _, _, by assumption⟩
  · cases h

theorem decSeq_sigField_shape (cs : List Cbor) (l : List SigObj) (h : decSeq sigField cs = .ok l) :
    l.length = cs.length ∧ ∀ c ∈ cs, ∃ p u g, untag c = .arr [p, u, g] := by
  induction cs generalizing l with
  | nil => cases h; exact ⟨rfl, fun c hc => by cases hc⟩
  | cons c cs ih =>
    obtain ⟨a, r, hc, hr, rfl⟩ := decSeq_cons_ok h
    obtain ⟨hl, hall⟩ := ih r hr
    exact ⟨by simp [hl], List.forall_mem_cons.mpr ⟨sigField_ok_shape hc, hall⟩⟩

/-- **a COSE_Sign whose signatures array holds a null or undefined entry does not decode** (`decSeq_sigField_shape`: every
    element has to be a three-member array and makes one signature object); with `sign_every_signature_checked`, a message
    verifies only if its list is non-empty and every wire element of it was checked -/
theorem sign_null_entry_rejected (p u y : Cbor) (cs : List Cbor) (c : Cbor) (hc : c ∈ cs)
    (hn : untag c = .simple 22 ∨ untag c = .simple 23) (w : Wire) :
    wireOfCbor .sign (.arr [p, u, y, .arr cs]) ≠ .ok w := by
  intro h
  simp only [wireOfCbor, untag] at h
  split at h <;> try cases h
  split at h <;> try cases h
  rename_i l hd
  obtain ⟨a, b, g, hshape⟩ := (decSeq_sigField_shape cs l hd).2 c hc
  rcases hn with hn | hn <;> (rw [hn] at hshape; cases hshape)

end Cose.Props.C02
