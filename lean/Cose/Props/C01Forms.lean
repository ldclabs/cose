import Cose.Msg.Roundtrip
import Cose.Props.C01
/-!
# C01 — tagged, untagged and CWT-tagged input are decoded alike

`unmarshal_form_independent`: for each of the six kinds and every well-formed wire array, `UnmarshalCBOR` answers the
same on the bare array, on the array under the kind's tag (what `MarshalCBOR` emits) and on that under the CWT tag 61 —
prefix stripping, strict decoding, the recipients' first-octet dispatch and the field decoding included.
`marshalled_forms` says the same of what `MarshalCBOR` emits, when the emitted array is itself well-formed: that carries the
round trips stated for the tagged form over to the other two forms, except where an unprotected map is emitted in
non-canonical entry order (the emitted array is then not `WF`; those round trips are stated for the tagged form only).
-/
namespace Cose.Props.C01
open Cose.Msg Cose.Go Cose.Cbor Cose.Gen

theorem untag_idem : (c : Cbor) → untag (untag c) = untag c
  | .tag _ v => by simpa [untag] using untag_idem v
  | .uint _ => rfl | .nint _ => rfl | .bstr _ => rfl | .tstr _ => rfl | .arr _ => rfl | .map _ => rfl
  | .simple _ => rfl | .float _ _ => rfl

theorem wireOfCbor_untag (k : Kind) (c : Cbor) : wireOfCbor k c = wireOfCbor k (untag c) := by
  unfold wireOfCbor; rw [untag_idem]

theorem unmarshal_of_view (k : Kind) (mode : PMode) {d1 d2 : Bytes} {c1 c2 : Cbor}
    (h1 : decodeAll (applyStrip d1 (stripSteps k)) = some c1) (h2 : decodeAll (applyStrip d2 (stripSteps k)) = some c2)
    (hu : untag c1 = untag c2)
    (hr : rawArrayElems (applyStrip d1 (stripSteps k)) = rawArrayElems (applyStrip d2 (stripSteps k))) :
    unmarshal k mode d1 = unmarshal k mode d2 := by
  unfold unmarshal recipientsRawOk
  rw [h1, h2, hr]
  simp only
  rw [wireOfCbor_untag k c1, hu, ← wireOfCbor_untag]

/-- the bare array is not touched by the prefix stripping: its first octet is `80 + n`, every step's prefix starts with
    an octet of major type 6 -/
theorem applyStrip_bare (k : Kind) (xs : List Cbor) (hl : xs.length < 24) :
    applyStrip (encode (.arr xs)) (stripSteps k) = encode (.arr xs) := by
  obtain ⟨rest, hr⟩ := encode_arr_first xs hl
  obtain ⟨b, hs⟩ := stripSteps_eq k
  have hne : ∀ (t : UInt8) (ps : Bytes), t.toNat ≥ 0xd0 →
      (t :: ps).isPrefixOf (u8 (4 * 32 + xs.length) :: rest) = false := by
    intro t ps ht
    have : t ≠ u8 (4 * 32 + xs.length) := by intro he; rw [he, u8_toNat (by omega)] at ht; omega
    simp [List.isPrefixOf, this]
  rw [hs, hr, applyStrip_skip (hne _ _ (by decide)), applyStrip_skip (by cases k <;> exact hne _ _ (by decide))]
  rfl

theorem applyStrip_cwt (k : Kind) (xs : List Cbor) :
    applyStrip (0xd8 :: 0x3d :: encode (.tag k.tagNum (.arr xs))) (stripSteps k) =
      applyStrip (encode (.tag k.tagNum (.arr xs))) (stripSteps k) := by
  obtain ⟨b, hs⟩ := stripSteps_eq k
  have henc : encode (.tag k.tagNum (.arr xs)) = head 6 k.tagNum ++ encode (.arr xs) := rfl
  rw [hs, henc, applyStrip_skip (cwt_not_prefix k _)]
  rfl

/-- **tagged, untagged and CWT-tagged input are decoded alike** (all six kinds, every well-formed wire array) -/
theorem unmarshal_form_independent (k : Kind) (mode : PMode) (xs : List Cbor) (hw : WF (.arr xs))
    (hd : depth (.arr xs) < maxNesting) (hl : xs.length < 24) :
    unmarshal k mode (encode (.arr xs)) = unmarshal k mode (encode (.tag k.tagNum (.arr xs))) ∧
    unmarshal k mode (0xd8 :: 0x3d :: encode (.tag k.tagNum (.arr xs))) = unmarshal k mode (encode (.tag k.tagNum (.arr xs))) := by
  refine ⟨?_, by unfold unmarshal; rw [applyStrip_cwt k xs]⟩
  obtain ⟨c1, h1, hu1, hr1⟩ := tagged_view k hw hd (.inl (applyStrip_bare k xs hl))
  obtain ⟨c2, h2, hu2, hr2⟩ := tagged_view k hw hd (applyStrip_marshalled k xs)
  exact unmarshal_of_view k mode h1 h2 (hu1.trans hu2.symm) (hr1.trans hr2.symm)

/-- in terms of `MarshalCBOR`: what it emits, the same without the tag, and the same under the CWT tag are decoded alike -/
theorem marshalled_forms (k : Kind) (mode : PMode) (w : Wire) (xs : List Cbor) (bytes : Bytes)
    (hx : wireCbor k w = some (.arr xs)) (hm : marshal k w = some bytes)
    (hw : WF (.arr xs)) (hd : depth (.arr xs) < maxNesting) (hl : xs.length < 24) :
    unmarshal k mode (encode (.arr xs)) = unmarshal k mode bytes ∧
    unmarshal k mode (0xd8 :: 0x3d :: bytes) = unmarshal k mode bytes := by
  have : bytes = encode (.tag k.tagNum (.arr xs)) := by
    unfold marshal at hm; rw [hx] at hm; simpa using hm.symm
  subst this
  exact unmarshal_form_independent k mode xs hw hd hl

/-- the wire struct of every kind is an array with a one-octet head (it has 3 to 5 members; the statement says fewer than 24) -/
theorem wireCbor_is_short_array (k : Kind) (w : Wire) (c : Cbor) (h : wireCbor k w = some c) :
    ∃ xs, c = .arr xs ∧ xs.length < 24 := by
  unfold wireCbor at h
  split at h
  · cases h
  · cases k <;> simp only at h
    case sign1 | mac0 | encrypt0 => cases h; exact ⟨_, rfl, by simp⟩
    case sign | mac | encrypt =>
      -- without the list member a null stands in its place; with it the encoded items make one more member
      split at h
      · cases h; exact ⟨_, rfl, by simp⟩
      · obtain ⟨ss, -, rfl⟩ := Option.map_eq_some_iff.mp h
        exact ⟨_, rfl, by simp⟩

end Cose.Props.C01
