import Cose.Gen.Iana
import Cose.Spec.IanaSnapshot
/-!
# C20 — IANA registry constants carry the assigned values

`Cose.Gen.Iana.consts` is regenerated from `/repo/iana/*.go` on every run (go/constant values), so the
theorems below are checked by the kernel against the code as it is at that run; `snapshot`
(`Spec/IanaSnapshot.lean`) is the hand-transcribed registry, trusted.  The quantifier of the
property is a finite table, so `decide` over the whole table is a proof (not a sample).

Both tables are sorted by constant name, which lets the comparison be a linear merge (`tagSorted`);
its soundness (`tagSorted_sound`) is proved for arbitrary lists, so nothing depends on the sorting
being right: an unsorted table can only make the check fail, never pass wrongly.
-/
namespace Cose.Props.C20
open Cose.Gen.Iana Cose.Spec.Iana

/-- merge the code table against the snapshot: for every code constant found in the snapshot with the
    same name, emit (registry, name, code value, assigned value); `none` if some constant is not found. -/
def tagSorted : List (String × String × Int) → List (String × String × Int) →
    Option (List (String × String × Int × Int))
  | [], _ => some []
  | _ :: _, [] => none
  | (f, n, v) :: cs, (g, m, w) :: ss =>
    if n == m then (tagSorted cs ss).map ((g, n, v, w) :: ·)
    else tagSorted ((f, n, v) :: cs) ss

theorem tagSorted_sound {ss cs : List (String × String × Int)} {out} (h : tagSorted cs ss = some out) :
    ∀ c ∈ cs, ∃ g w, (g, c.2.1, w) ∈ ss ∧ (g, c.2.1, c.2.2, w) ∈ out := by
  induction ss generalizing cs out with
  | nil => cases cs <;> simp [tagSorted] at h ⊢
  | cons s ss ih =>
    obtain ⟨g, m, w⟩ := s
    cases cs with
    | nil => simp
    | cons a cs =>
      obtain ⟨f, n, v⟩ := a
      intro c hc
      simp only [tagSorted] at h
      split at h
      · rename_i hnm
        obtain ⟨o, ho, rfl⟩ := Option.map_eq_some_iff.mp h
        obtain rfl : n = m := by simpa using hnm
        rcases List.mem_cons.mp hc with rfl | hc'
        · exact ⟨g, w, by simp, by simp⟩
        · obtain ⟨g', w', h1, h2⟩ := ih ho c hc'
          exact ⟨g', w', List.mem_cons_of_mem _ h1, List.mem_cons_of_mem _ h2⟩
      · obtain ⟨g', w', h1, h2⟩ := ih h c hc
        exact ⟨g', w', List.mem_cons_of_mem _ h1, h2⟩

def merged : Option (List (String × String × Int × Int)) := tagSorted consts snapshot

def registries : List String :=
  ["alg", "cwt-claim", "curve", "header", "key-common", "key-type", "key-okp", "key-ec2", "key-rsa",
   "key-symmetric", "key-hss-lms", "key-walnut", "key-op", "cbor-tag"]

def codeValuesOf (reg : String) (m : List (String × String × Int × Int)) : List Int :=
  (m.filter (fun r => r.1 == reg)).map (·.2.2.1)

def c20Check : Bool :=
  match merged with
  | none => false
  | some m =>
    m.all (fun r => r.2.2.1 == r.2.2.2) &&
    m.all (fun r => registries.contains r.1) &&
    registries.all (fun reg => decide (codeValuesOf reg m).Nodup)

/-- The one evaluation of the two tables.  `c20Check` matches on `merged`, and the kernel can relate that match to
    propositions about `merged` only by evaluating `merged` once more; inside one run the second form costs nothing
    (the kernel remembers what it reduced), so the check is evaluated here in both forms at once. -/
theorem c20_evaluated : c20Check = true ∧
    merged.any (fun m => m.all (fun r => r.2.2.1 == r.2.2.2) && m.all (fun r => registries.contains r.1) &&
      registries.all (fun reg => decide (codeValuesOf reg m).Nodup)) = true := by decide +kernel

theorem c20Check_true : c20Check = true := c20_evaluated.1

theorem merged_spec : ∃ m, merged = some m ∧ (∀ r ∈ m, r.2.2.1 = r.2.2.2) ∧ (∀ r ∈ m, r.1 ∈ registries) ∧
    ∀ reg ∈ registries, (codeValuesOf reg m).Nodup := by
  obtain ⟨m, hm, h⟩ := (Option.any_eq_true _ _).mp c20_evaluated.2
  simp only [Bool.and_eq_true, List.all_eq_true, beq_iff_eq, List.contains_iff_mem, decide_eq_true_eq] at h
  exact ⟨m, hm, h.1.1, h.1.2, h.2⟩

/-- **C20 (values)**: every constant of package `iana` (`consts`) stands in the registry snapshot, under its name and with
    its value. -/
theorem iana_values_match :
    ∀ c ∈ consts, ∃ reg, (reg, c.2.1, c.2.2) ∈ snapshot := by
  intro c hc
  obtain ⟨m, hm, hv, -⟩ := merged_spec
  obtain ⟨g, w, h1, h2⟩ := tagSorted_sound hm c hc
  have hvw : c.2.2 = w := hv _ h2
  exact ⟨g, hvw ▸ h1⟩

/-- **C20 (distinctness)**: within one registry, the values the code gives to different entries are pairwise distinct. -/
theorem iana_distinct :
    ∃ m, merged = some m ∧ ∀ reg ∈ registries, (codeValuesOf reg m).Nodup :=
  let ⟨m, hm, _, _, hd⟩ := merged_spec; ⟨m, hm, hd⟩

/-- every merged row belongs to an enumerated registry, so `iana_distinct` misses no entry -/
theorem registries_complete : ∃ m, merged = some m ∧ ∀ r ∈ m, r.1 ∈ registries :=
  let ⟨m, hm, _, hr, _⟩ := merged_spec; ⟨m, hm, hr⟩

/-- non-vacuity: the table is not empty, and one entry as it stands in both tables (Countersignature0 version 2, 12, whose
    neighbour Countersignature version 2 is 11) -/
example : consts.length ≥ 190 := by decide +kernel
example : ("header.go", "HeaderParameterCountersignature0V2", (12 : Int)) ∈ consts := by decide +kernel
example : ("header", "HeaderParameterCountersignature0V2", (12 : Int)) ∈ snapshot := by decide +kernel

end Cose.Props.C20
