import Cose.Props.ClaimsRoundtrip
import Cose.Cwt.View
/-!
# C09 / C18 — the struct form and the map form of a claim set agree

`struct_map_same_bytes`: a `cwt.Claims` struct and the `ClaimsMap` holding the same claims (non-zero members under the
labels 1..7, as Go strings / `uint64` / `[]byte`) encode to *the same octets*.
`struct_token_read_as_map`: the octets a struct encodes to decode as a `ClaimsMap` that answers every look-up like
that map, so `ValidateMap` on the receiving side decides what it would decide on the sender's claims.
-/
namespace Cose.Props.ClaimsForms
open Cose.Go Cose.Cbor Cose.Msg Cose.Cwt Cose.Props.ClaimsRoundtrip

def goMembers (es : List (Nat × Option GoVal)) : CMap :=
  es.filterMap (fun e => e.2.map (fun v => (Label.int e.1, v)))

/-- the `ClaimsMap` with the claims of the struct -/
def toClaimsMap (c : ClaimsS) : CMap := goMembers (goFields c)

def goEntry (p : Nat × GoVal) : Label × GoVal := (.int p.1, p.2)

theorem goMembers_eq (es : List (Nat × Option GoVal)) : goMembers es = (present es).map goEntry := by
  rw [present, List.map_filterMap]
  simp only [Option.map_map]; rfl

theorem entryCbor_goEntry (p : Nat × GoVal) : entryCbor (goEntry p) = pair p := congrArg (·, cv p.2) (ofInt_nat p.1)

theorem map_entryCbor (es : List (Nat × Option GoVal)) : (goMembers es).map entryCbor = members es := by
  rw [goMembers_eq, members, List.map_map]
  exact List.map_congr_left (fun p _ => entryCbor_goEntry p)

theorem goMembers_nodup (es : List (Nat × Option GoVal)) (hs : es.Pairwise (fun a b => a.1 < b.1)) :
    ((goMembers es).map (·.1)).Nodup := by
  rw [goMembers_eq, List.map_map, List.nodup_iff_pairwise_ne, List.pairwise_map]
  exact (present_sorted hs).imp (fun h e => by have := Label.int.inj e; omega)

theorem goMembers_ok (es : List (Nat × Option GoVal)) (hl : Labels es) (hv : ∀ e ∈ es, Item Flat e.2) :
    ∀ kv ∈ goMembers es, EntryOk kv := by
  rw [goMembers_eq, List.forall_mem_map]
  intro p hp
  refine ⟨?_, present_forall (P := fun _ v => Flat v) hv p hp⟩
  have := hl.present.2 p hp
  simp only [goEntry, LabelOk, minInt32, maxInt32]; omega

theorem toClaimsMap_ok (c : ClaimsS) (h : Ok c) : ∀ kv ∈ toClaimsMap c, EntryOk kv :=
  goMembers_ok _ (labels_1_7 rfl) (goFields_flat c h)

/-- **struct form and map form are the same octets** -/
theorem struct_map_same_bytes (c : ClaimsS) (h : Ok c) : encodeCMap (toClaimsMap c) = some (encode c.toCbor) := by
  unfold encodeCMap CMap.toCbor
  rw [cmapPairs_eq _ (toClaimsMap_ok c h), toClaimsMap, map_entryCbor, toCbor_eq]
  rfl

/-- **a token built from the struct and read as a map**: the octets decode as a `ClaimsMap` with as many claims, that
    answers every look-up like the map form of the struct (values in their decoded form), so `ValidateMap` decides on
    it what it decides on the sender's claims -/
theorem struct_token_read_as_map (c : ClaimsS) (h : Ok c) :
    ∃ m', decodeCMap (encode c.toCbor) = .ok m' ∧ m'.length = (toClaimsMap c).length ∧
      (∀ l, m'.lookup l = ((toClaimsMap c).lookup l).map normV) ∧
      ∀ o, validateMap o (claimsView m') = validateMap o (claimsView (toClaimsMap c)) := by
  have hok := toClaimsMap_ok c h
  have hnd := goMembers_nodup (goFields c) (labels_1_7 rfl).1
  have hlen : (toClaimsMap c).length ≤ maxElems :=
    Nat.le_trans (List.length_filterMap_le _ _) (by decide : 7 ≤ maxElems)
  obtain ⟨b, m', hb, hd, hl, hlook⟩ := cmap_roundtrip (toClaimsMap c) hok hnd hlen
  obtain rfl := Option.some.inj ((struct_map_same_bytes c h).symm.trans hb)
  exact ⟨m', hd, hl, hlook, fun o => validateMap_roundtrip o _ _ hok hnd hlook⟩

example : toClaimsMap ⟨[0x6c, 0x64, 0x63], [], [0x61], 1444064944, 0, 0, some [1, 2]⟩ =
    [(.int 1, .str [0x6c, 0x64, 0x63]), (.int 3, .str [0x61]), (.int 4, .int .u64 1444064944), (.int 7, .bytes [1, 2])] := rfl

end Cose.Props.ClaimsForms
