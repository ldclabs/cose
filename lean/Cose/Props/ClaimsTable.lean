import Cose.Cwt.Claims
import Cose.Go.Val
/-!
# The members of `cwt.Claims` as Go values, under their labels

The one table that the struct form (`ClaimsRoundtrip.lean`: the items of the encoded map are `cv` of these) and the map form
(`ClaimsForms.lean`: its `ClaimsMap` holds these) both read.
-/
namespace Cose.Props.ClaimsForms
open Cose.Go Cose.Cwt

def ctiGo : Option Bytes → Option GoVal
  | some (x :: r) => some (.bytes (x :: r))
  | _ => none

def goFields (c : ClaimsS) : List (Nat × Option GoVal) :=
  [(1, if c.iss.isEmpty then none else some (.str c.iss)),
   (2, if c.sub.isEmpty then none else some (.str c.sub)),
   (3, if c.aud.isEmpty then none else some (.str c.aud)),
   (4, if c.exp == 0 then none else some (.int .u64 c.exp)),
   (5, if c.nbf == 0 then none else some (.int .u64 c.nbf)),
   (6, if c.iat == 0 then none else some (.int .u64 c.iat)),
   (7, ctiGo c.cti)]

end Cose.Props.ClaimsForms
