import Cose.Conc.Sched
import Cose.Gen.Footprints
/-!
# C19 — signers, verifiers, MACers, encryptors, ECDHers, validators are safe to share

What can be a theorem: (1) `Conc.schedule_independent` — calls that never write shared state return, in every
interleaving of any number of goroutines, what they return alone; (2) the premise for *this* code, as a
kernel-checked obligation on the **regenerated footprints**: every method of every shared implementation type
only reads its receiver's fields, calls its own read-only methods, or hands a field to a callee from an explicit
allow-list of constructors / documented concurrency-safe calls; no field is assigned, incremented, appended to,
copied into, or has its address taken; the registry maps are written only by the `Register*` functions (package
init).  A cached `hash.Hash` / `cipher.BlockMode` / scratch buffer, or a stateful method called on a stored
object, changes a footprint or the field list and breaks `shared_methods_footprints` / `impl_struct_fields`.
What cannot be a theorem (stated in DESIGN §8): the Go memory model and the thread-safety of the `crypto/*`
objects held in fields; the `-race` harness (`harness/race`, run by `bin/check C19`) is the search that supports this check.
-/
namespace Cose.Props.C19
open Cose.Gen.Footprints

/-- the implementation / validator types whose instances are shared between goroutines -/
def sharedTypes : List String :=
  ["key_hmac.hMAC", "key_aesmac.aesMAC", "key_aesgcm.aesGCM", "key_aesccm.aesCCM", "key_aesccm.ccm",
   "key_chacha20poly1305.chacha", "key_ecdsa.ecdsaSigner", "key_ecdsa.ecdsaVerifier",
   "key_ed25519.ed25519Signer", "key_ed25519.ed25519Verifier", "key_ecdh.ECDHer", "cwt.Validator"]

/-- uses a shared method may make of its receiver's fields -/
def allowedKinds : List String :=
  ["read",
   -- own read-only methods
   "self:create", "self:tag", "self:MaxLength", "self:Overhead", "self:NonceSize", "self:cbcData", "self:cbcRound",
   -- the key (a map read through accessors)
   "call:key.Key.Ops", "call:key.Key.Alg", "call:key.Key.GetBytes",
   -- constructors taking the stored cipher.Block / hash constructor (they build fresh per-call state)
   "arg:crypto/cipher.NewGCM#0", "arg:crypto/cipher.NewCBCEncrypter#0", "arg:crypto/cipher.NewCTR#0",
   "arg:key_aesccm.NewCCM#0", "arg:crypto/hmac.New#0",
   -- the all-zero IV (a package variable that is never written) is copied by NewCBCEncrypter
   "arg:crypto/cipher.NewCBCEncrypter#1",
   -- cipher.Block.Encrypt is documented safe for concurrent use (no internal state)
   "call:crypto/cipher.Block.Encrypt",
   -- stateless crypto entry points taking the stored key material by value / read-only
   "arg:crypto/ecdsa.Sign#1", "arg:crypto/ecdsa.Verify#0", "arg:key_ecdsa.EncodeSignature#0",
   "arg:key_ecdsa.DecodeSignature#0", "arg:crypto/ed25519.Sign#0", "arg:crypto/ed25519.Verify#0",
   "call:*crypto/ecdh.PrivateKey.ECDH",
   -- plain value uses
   "arg:int#0", "arg:make#1", "arg:key_aesccm.maxlen#0",
   "arg:fmt.Errorf#1", "arg:time.Time.Add#0", "call:time.Time.IsZero"]

def sharedMethods : List (String × String × List (String × String)) :=
  footprints.filter (fun m => sharedTypes.contains m.2.1)

/-- **every use a method of a shared type makes of a receiver field or package variable is on the allow-list**, which
    holds no assignment, append, copy-into or address-of -/
theorem shared_methods_footprints :
    sharedMethods.all (fun m => m.2.2.all (fun u => allowedKinds.contains u.2)) = true := by decide +kernel

/-- non-vacuity of `shared_methods_footprints`: every shared type has methods in the inventory -/
theorem shared_methods_present :
    sharedTypes.all (fun t => sharedMethods.any (fun m => m.2.1 == t)) = true ∧ sharedMethods.length ≥ 30 := by
  decide +kernel

theorem registry_written_only_by_register :
    (footprints.filter (fun m => m.2.2.any (fun u =>
        (u.1 == "var:key.signers" || u.1 == "var:key.verifiers" || u.1 == "var:key.macers" || u.1 == "var:key.encryptors")
        && u.2 != "read"))).map (·.1) =
      ["key.RegisterEncryptor", "key.RegisterMACer", "key.RegisterSigner", "key.RegisterVerifier"] := by decide +kernel

/-- **key lookups do not write the shared key**: the only functions of the library that store into, delete from or
    replace a label map they were handed (as receiver or as parameter) are the setters and the decoders — none of
    the accessors (`Ops`, `Alg`, `Kty`, `Kid`, `Has`, `Get*`, `BaseIV`), `CheckKey`s, factories or conversions.
    (A "normalise once" write-back in an accessor changes this list.) -/
theorem key_maps_written_only_by_setters :
    (footprints.filter (fun m => m.2.2.any (fun u =>
        ((u.1 == "recv[]" || u.1 == "param[]") && u.2 != "read" && !(u.2.startsWith "arg:fmt."))
        || (u.1 == "recv" && (u.2 == "assigned" || u.2 == "arg:delete#0"))))).map (·.1) =
      ["key.ByteStr.UnmarshalJSON", "key.ByteStr.UnmarshalText", "key.CoseMap.Set", "key.CoseMap.UnmarshalCBOR",
       "key.Key.SetKid", "key.Key.SetOps"] := by decide +kernel

theorem package_vars_never_assigned :
    (footprints.filter (fun m => m.2.2.any (fun u =>
        (u.1 == "var:key_aesmac.fixedIV" || u.1 == "var:key_hkdf.fixedIV" || u.1 == "var:key.encMode" || u.1 == "var:key.decMode"
          || u.1 == "var:cose.cwtPrefix") && (u.2 == "assigned" || u.2 == "addr")))) = [] := by decide +kernel

/-- **the library's shared state is the known one**: the only package-level variables any function of the library touches
    are the four registries, the two codec modes and the constant prefixes / zero IVs.  A pooled or buffered reader, a
    cache or a scratch buffer introduced at package level appears here. -/
theorem package_vars_are_the_known_ones :
    footprints.all (fun m => m.2.2.all (fun u => !(u.1.startsWith "var:") ||
      ["var:cose.cwtPrefix", "var:cose.encrypt0MessagePrefix", "var:cose.encryptMessagePrefix", "var:cose.mac0MessagePrefix",
       "var:cose.macMessagePrefix", "var:cose.sign1MessagePrefix", "var:cose.signMessagePrefix", "var:key.decMode", "var:key.encMode",
       "var:key.encryptors", "var:key.macers", "var:key.signers", "var:key.verifiers", "var:key_aesmac.fixedIV",
       "var:key_hkdf.fixedIV"].contains u.1)) = true := by decide +kernel

/-- all that the two random functions call: no state of the library's own, and `crypto/rand.Read` is documented safe for
    concurrent use -/
theorem random_source_is_stateless :
    randomCallees =
      [("key.GetRandomBytes", ["make", "crypto/rand.Read"]),
       ("key.GetRandomUint32", ["key.GetRandomBytes", "encoding/binary.bigEndian.Uint32"])] := by decide +kernel

/-- the fields of the implementation types: key reference + immutable material only.  A new field (cache,
    scratch buffer, stored `hash.Hash` / `cipher.BlockMode` / `cipher.AEAD`) changes this table. -/
theorem impl_struct_fields :
    structFields.filter (fun s => sharedTypes.contains s.1) =
      [("cwt.Validator", [("opts", "ValidatorOpts")]),
       ("key_aesccm.aesCCM", [("key", "key.Key"), ("block", "cipher.Block"), ("ivSize", "int")]),
       ("key_aesccm.ccm", [("b", "cipher.Block"), ("M", "uint8"), ("L", "uint8")]),
       ("key_aesgcm.aesGCM", [("key", "key.Key"), ("block", "cipher.Block")]),
       ("key_aesmac.aesMAC", [("key", "key.Key"), ("block", "cipher.Block"), ("tagSize", "int")]),
       ("key_chacha20poly1305.chacha", [("key", "key.Key")]),
       ("key_ecdh.ECDHer", [("key", "key.Key"), ("privKey", "*goecdh.PrivateKey")]),
       ("key_ecdsa.ecdsaSigner", [("key", "key.Key"), ("privKey", "*goecdsa.PrivateKey")]),
       ("key_ecdsa.ecdsaVerifier", [("key", "key.Key"), ("pubKey", "*goecdsa.PublicKey")]),
       ("key_ed25519.ed25519Signer", [("key", "key.Key"), ("privKey", "goed25519.PrivateKey")]),
       ("key_ed25519.ed25519Verifier", [("key", "key.Key"), ("pubKey", "goed25519.PublicKey")]),
       ("key_hmac.hMAC", [("key", "key.Key"), ("tagSize", "int"), ("hash", "func() hash.Hash")])] := by
  decide +kernel

/-- no method of a shared type assigns anything.  The `aesHKDF` reader, whose `Read` does, is excluded by name and is not
    among the shared types; about types outside `sharedTypes` the statement says nothing.  The `HKDFAES` disjunct cannot
    fire (`HKDFAES` is a function, and a function's row has receiver type ""); what remains follows from
    `shared_methods_footprints`, "assigned" not being among `allowedKinds` -/
theorem only_stateful_type_is_the_hkdf_reader :
    ((footprints.filter (fun m => m.2.1 != "" && !(m.2.1 == "key_hkdf.aesHKDF") &&
        (m.1 == "key_hkdf.HKDFAES" || m.2.2.any (fun u => u.2 == "assigned") && sharedTypes.contains m.2.1))).map (·.1)) = [] := by
  decide +kernel

/-- `Conc.schedule_independent`, the results only.  That the library's shared objects are read-only operations is not a
    Lean statement: the footprint theorems above are the evidence for it -/
theorem shared_calls_schedule_independent {S In Out} (s0 : S) (sched : List (Cose.Conc.Op S In Out × In))
    (h : ∀ p ∈ sched, p.1.ReadOnly) :
    (Cose.Conc.runSchedule s0 sched).1 = sched.map (fun p => (p.1.run s0 p.2).1) := by
  rw [Cose.Conc.schedule_independent s0 sched h]

-- non-vacuity: a read-only operation exists, and a writing one is not read-only
example : (⟨fun (s : Nat) (i : Nat) => (s + i, s)⟩ : Cose.Conc.Op Nat Nat Nat).ReadOnly := fun _ _ => rfl
example : ¬ (⟨fun (s : Nat) (i : Nat) => (s + i, s + 1)⟩ : Cose.Conc.Op Nat Nat Nat).ReadOnly := by
  intro h; have := h 0 0; simp at this

end Cose.Props.C19
