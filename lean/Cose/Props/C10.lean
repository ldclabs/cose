import Cose.Key.EcLemmas
/-!
# C10 — ECDSA/EdDSA signatures are correct, fixed-length and independently verifiable

Theorems: the r‖s codec (RFC 9053 §2.1 / RFC 8152 §8.1) is exact on the whole range (`decodeSig_encodeSig`,
`decodeSig_injective`) and has the registered lengths 64 / 96 / 132 (`signature_sizes`); any other length is refused
(`decodeSig_rejects_other_lengths`); the hash per algorithm is the RFC 9053 one (`hash_table_is_rfc9053`, table
regenerated).
Independent verifiability and signature correctness are established against the **Lean ECDSA / Ed25519 reference**
in the correspondence run `sig` (library signatures verify in Lean, Ed25519 signatures are byte-identical, every
mutation gets the same verdict, keys with leading-zero scalars and coordinates, public keys in derived / exported /
compressed form); the group laws themselves are assumptions (DESIGN §8).
-/
namespace Cose.Props.C10
open Cose.Key Cose.Crypto Cose.Gen.Tables

theorem signature_sizes : 2 * p256.byteLen = 64 ∧ 2 * p384.byteLen = 96 ∧ 2 * p521.byteLen = 132 := by decide

/-- the regenerated `getCurve` of `key/ecdsa/ecdsa.go` -/
theorem ecdsa_curve_table :
    sw_key_ecdsa_getCurve.srows = [((-36), ["elliptic.P521()", "3"]), ((-35), ["elliptic.P384()", "2"]), ((-7), ["elliptic.P256()", "1"])] ∧
    sw_key_ecdsa_getCurve.dflt = ["nil", "0"] := by decide +kernel

/-- ES256 → SHA-256, ES384 → SHA-384, ES512 → SHA-512 (Go crypto.Hash ids 5, 6, 7) -/
theorem hash_table_is_rfc9053 :
    nth (swRow sw_key_Alg_HashFunc (-7)) 0 = 5 ∧ nth (swRow sw_key_Alg_HashFunc (-35)) 0 = 6 ∧
    nth (swRow sw_key_Alg_HashFunc (-36)) 0 = 7 := by decide +kernel

theorem decodeSig_encodeSig (c : Curve) (r s : Nat) (hr : r < 256 ^ c.byteLen) (hs : s < 256 ^ c.byteLen) :
    ∃ sig, encodeSig c r s = some sig ∧ sig.length = 2 * c.byteLen ∧ decodeSig c sig = some (r, s) := by
  have l : (fixedLen c.byteLen r ++ fixedLen c.byteLen s).length = 2 * c.byteLen := by
    rw [List.length_append, fixedLen_length, fixedLen_length, Nat.two_mul]
  refine ⟨_, ?_, l, ?_⟩
  · rw [encodeSig, if_neg (by simp; omega)]
  · rw [decodeSig, if_neg (by simp [l]), List.take_left' (fixedLen_length _ _), List.drop_left' (fixedLen_length _ _),
      os2ip_fixedLen hr, os2ip_fixedLen hs]

theorem encodeSig_rejects_large (c : Curve) (r s : Nat) (h : r ≥ 256 ^ c.byteLen ∨ s ≥ 256 ^ c.byteLen) :
    encodeSig c r s = none := by
  unfold encodeSig
  rcases h with h | h <;> simp [h]

theorem decodeSig_eq_some {c : Curve} {sig : Bytes} {p : Nat × Nat} (h : decodeSig c sig = some p) :
    sig.length = 2 * c.byteLen ∧ os2ip (sig.take c.byteLen) = p.1 ∧ os2ip (sig.drop c.byteLen) = p.2 := by
  unfold decodeSig at h
  obtain ⟨hl, h⟩ := Option.ite_none_left_eq_some.mp h
  cases h
  exact ⟨by simpa using hl, rfl, rfl⟩

theorem decodeSig_rejects_other_lengths (c : Curve) (sig : Bytes) (h : sig.length ≠ 2 * c.byteLen) :
    decodeSig c sig = none := by
  unfold decodeSig; simp [h]

theorem decodeSig_injective (c : Curve) (a b : Bytes) (p : Nat × Nat) (ha : decodeSig c a = some p)
    (hb : decodeSig c b = some p) : a = b := by
  obtain ⟨la, a1, a2⟩ := decodeSig_eq_some ha
  obtain ⟨lb, b1, b2⟩ := decodeSig_eq_some hb
  rw [← List.take_append_drop c.byteLen a, ← List.take_append_drop c.byteLen b,
    os2ip_injective (by simp [la, lb]) (a1.trans b1.symm), os2ip_injective (by simp [la, lb]) (a2.trans b2.symm)]

/-- one input: the Ed25519 verifier (64-octet signatures, 32-octet keys) refuses a 63-octet signature -/
example : ed25519Verify (List.replicate 32 0) [] (List.replicate 63 0) = false := by decide +kernel

-- non-vacuity: boundary values of the codec
#guard decodeSig p256 ((encodeSig p256 1 (p256.n - 1)).getD []) == some (1, p256.n - 1)
#guard (encodeSig p521 (2 ^ 520) 1).map List.length == some 132

end Cose.Props.C10
