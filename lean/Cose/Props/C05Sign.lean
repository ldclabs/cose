import Cose.Props.C02
/-!
# C05 — COSE_Sign: each signature's own protected bucket decides

For the one-authenticator kinds the algorithm check reads the body protected bucket (`Props/C05.lean`).  A COSE_Sign
carries one protected bucket per signature; the check is per signature, against the verifier found under that
signature's kid, and nothing at body level can stand in for it.
-/
namespace Cose.Props.C05Sign
open Cose.Msg Cose.Go Cose.Gen Cose.Props.C02

/-- the verdict of `SignMessage.Verify` reads the message object only through the retained wire struct: the decoded
    body-level protected and unprotected maps (an `alg` in either of them) and the payload member have no say -/
theorem sign_body_headers_have_no_say (k k' : Kind) (p p' u u' : Hdr) (y y' : PVal) (mm : Option Wire)
    (vs : List Verifier) (ext : Option Bytes) :
    verifySign ⟨k, p, u, y, mm⟩ vs ext = verifySign ⟨k', p', u', y', mm⟩ vs ext := by
  unfold verifySign; rfl

/-- **a signature whose own bucket names another algorithm than its verifier's key makes `Verify` fail** — in whatever
    position, whatever the other signatures, the body headers and the primitives say -/
theorem sign_signer_alg_mismatch_refused (m : Msg) (vs : List Verifier) (ext : Option Bytes) (w : Wire)
    (sigs : List SigObj) (s : SigObj) (v : Verifier) (hw : m.mm = some w) (hs : w.sigs = some sigs) (hin : s ∈ sigs)
    (hl : lookupVerifier vs s.kid = some v) (hm : algMismatch s.prot v.key.alg = true) :
    verifySign m vs ext ≠ .ok () := by
  intro h
  obtain ⟨w', sigs', hw', hs', _, hall⟩ := sign_every_signature_checked m vs ext h
  rw [hw] at hw'; cases hw'
  rw [hs] at hs'; cases hs'
  obtain ⟨v', _, _, hl', hm', _⟩ := hall s hin
  rw [hl] at hl'; cases hl'
  rw [hm] at hm'; cases hm'

-- non-vacuity: a two-signature message whose second signature names ES384 (-35) under an ES256 (-7) verifier's kid,
-- while the body protected map (decoded: {1: -7}) names the verifier's algorithm
def es256 : Verifier := ⟨⟨-7, some [1], .ok none⟩, fun _ _ => .ok ()⟩
def sig1 : SigObj := ⟨[(Msg.lbl 1, .int .i64 (-7))], some [0xa1, 0x01, 0x26], some [(Msg.lbl 4, .bytes [1])], some [9]⟩
def sig2 : SigObj := ⟨[(Msg.lbl 1, .int .i64 (-35))], some [0xa1, 0x01, 0x38, 0x22], some [(Msg.lbl 4, .bytes [1])], some [9]⟩
def twoSigs : List SigObj := [sig1, sig2]

example : verifySign ⟨.sign, some [(Msg.lbl 1, .int .i64 (-7))], some [], .bytes none,
    some ⟨some [0xa1, 0x01, 0x26], some [], some [1], none, some twoSigs, none⟩⟩ [es256] none ≠ .ok () :=
  sign_signer_alg_mismatch_refused _ [es256] none _ twoSigs sig2 es256 rfl rfl
    (List.mem_cons_of_mem _ List.mem_cons_self) (by with_unfolding_all rfl) (by decide +kernel)

end Cose.Props.C05Sign
