import Cose.Msg.Model
import Cose.Key.Ec
import Cose.Go.Lemmas
/-!
# C05 — the protected algorithm identifier binds the key that may be used

Model: `Cose.Msg.algMismatch`, `fillProtected`, `fillUnprotected` and the entry points `produceAuth`
(Sign1.WithSign, Mac0.Compute, Mac.Compute), `produceEnc` (Encrypt0/Encrypt.Encrypt), `verifyAuth`,
`decryptEnc` (`verifySign`: `C05Sign.lean`).  The primitives are *parameters* of these functions, so "refused even if the
cryptographic check would pass" is the statement that the result does not depend on the primitive at all.
-/
namespace Cose.Props.C05
open Cose.Msg Cose.Go Cose.Key Cose.Gen

/-- **produce side**: a protected alg different from the key's is refused, whatever the primitive would do -/
theorem produce_alg_mismatch_refused (m : Msg) (p : CMap) (hp : m.prot = some p) (key : KeyView)
    (h : algMismatch p key.alg = true) (auth : Bytes → Res Bytes) (ext : Option Bytes) :
    produceAuth m key auth ext = .err "alg-mismatch" := by
  unfold produceAuth fillProtected
  simp [hp, h]

theorem encrypt_alg_mismatch_refused (m : Msg) (p : CMap) (hp : m.prot = some p) (e : Encryptor)
    (h : algMismatch p e.key.alg = true) (ext : Option Bytes) (rnd : Bytes) :
    produceEnc m e ext rnd = .err "alg-mismatch" := by
  unfold produceEnc fillProtected
  simp [hp, h]

/-- **consume side**: refused before the primitive is consulted (the result is the same for every `check`) -/
theorem verify_alg_mismatch_refused (m : Msg) (w : Wire) (a : Bytes) (hw : m.mm = some w) (ha : w.auth = some a)
    (key : KeyView) (h : algMismatch (m.prot.getD []) key.alg = true) (check : Bytes → Bytes → Res Unit)
    (ext : Option Bytes) : verifyAuth m key check ext = .err "alg-mismatch" := by
  unfold verifyAuth
  simp [hw, ha, h]

theorem decrypt_alg_mismatch_refused (m : Msg) (mode : PMode) (w : Wire) (ct : Bytes) (hw : m.mm = some w)
    (hc : w.payload = some ct) (e : Encryptor) (h : algMismatch (m.prot.getD []) e.key.alg = true)
    (ext : Option Bytes) : decryptEnc m mode e ext = .err "alg-mismatch" := by
  unfold decryptEnc
  simp [hw, hc, h]

/-- **the unprotected bucket has no say**: verification of a COSE_Sign1 / COSE_Mac0 / COSE_Mac does not look at the
    unprotected map at all — neither the message's nor the retained wire struct's — so an `alg` placed there cannot
    override (or satisfy) the protected one -/
theorem verify_ignores_unprotected (m : Msg) (w : Wire) (hw : m.mm = some w) (u u' : Hdr)
    (key : KeyView) (check : Bytes → Bytes → Res Unit) (ext : Option Bytes) :
    verifyAuth { m with unprot := u, mm := some { w with unprot := u' } } key check ext = verifyAuth m key check ext := by
  unfold verifyAuth tobe
  simp only [hw]

/-- what "different" means: label 1 present and its value, read as an integer (anything unreadable counts as 0),
    differs from the key's algorithm -/
theorem algMismatch_iff (p : CMap) (a : Int) :
    algMismatch p a = true ↔
      p.has (Msg.lbl Iana.HeaderParameterAlg) = true ∧ headerAlg p ≠ a := by
  unfold algMismatch; simp

/-- **whatever Go integer kind holds the identifier, the value alone decides**: any two kinds for a value that is not
    negative (for a negative one any two signed kinds, `toInt_signed_kind_independent`) -/
theorem toInt_kind_independent (k k' : IntKind) (v : Int) (hv : 0 ≤ v) : toInt (.int k v) = toInt (.int k' v) := by
  rw [toInt_int k v (fun _ => hv), toInt_int k' v (fun _ => hv)]

theorem toInt_signed_kind_independent (k k' : IntKind) (v : Int) (hk : k.signed = true) (hk' : k'.signed = true) :
    toInt (.int k v) = toInt (.int k' v) := by
  rw [toInt_int k v (by simp [hk]), toInt_int k' v (by simp [hk'])]

/-- text, bytes, bool, null …: `ToInt` refuses them, so that `headerAlg` reads such an `alg` as 0 -/
theorem toInt_non_int_is_error (v : GoVal) (h : ∀ k n, v ≠ .int k n) : ∃ e, toInt v = .err e := by
  cases v with
  | int k n => exact absurd rfl (h k n)
  | _ => exact ⟨_, rfl⟩

/-- a key that a symmetric family accepts has a non-zero algorithm, so an unreadable `alg`, read as 0, does not match it;
    `hks`: the family has no key size for algorithm 0 (`keysize_zero_of_alg_zero`) -/
theorem checked_symmetric_alg_ne_zero (f : Tables.CheckKeyFacts) (ks : Int → Nat) (hks : ks 0 = 0) (k : Key)
    (h : checkSymmetric f ks k = true) : alg k ≠ 0 := by
  unfold checkSymmetric at h
  simp only [Bool.and_eq_true] at h
  obtain ⟨⟨_, h2⟩, _⟩ := h
  intro hz
  rw [hz, hks] at h2
  split at h2 <;> simp at h2

theorem keysize_zero_of_alg_zero :
    hmacKeySize 0 = 0 ∧ aesmacKeySize 0 = 0 ∧ gcmKeySize 0 = 0 ∧ ccmKeySize 0 = 0 ∧ chachaKeySizeOf 0 = 0 := by
  decide +kernel

/-- **defaults**: with the protected header left unset the library records the key's algorithm in it -/
theorem default_protected_records_alg (key : KeyView) (h : key.alg ≠ 0) :
    fillProtected none key = .ok [(Msg.lbl Iana.HeaderParameterAlg, .int .alg key.alg)] := by
  unfold fillProtected; simp [h]

/-- **defaults**: with the unprotected header left unset the library records the key's identifier in it -/
theorem default_unprotected_records_kid (key : KeyView) (kid : Bytes) (hk : key.kid = some kid) (hne : kid ≠ []) :
    fillUnprotected none key = [(Msg.lbl Iana.HeaderParameterKid, .bstr kid)] := by
  unfold fillUnprotected
  cases kid with
  | nil => exact absurd rfl hne
  | cons a r => simp [hk]

/-- the recorded default passes the check itself; `hr`: `getInt` reads nothing outside int32 -/
theorem default_protected_consistent (key : KeyView) (hr : -2147483648 ≤ key.alg ∧ key.alg ≤ 2147483647) :
    algMismatch [(Msg.lbl Iana.HeaderParameterAlg, .int .alg key.alg)] key.alg = false := by
  unfold algMismatch headerAlg CMap.has CMap.lookup getInt toInt minInt32 maxInt32
  simp [List.find?, IntKind.signed, hr]

theorem supplied_headers_kept (p : CMap) (key : KeyView) (h : algMismatch p key.alg = false) :
    fillProtected (some p) key = .ok p ∧ ∀ u, fillUnprotected (some u) key = u := by
  unfold fillProtected fillUnprotected; simp [h]

-- non-vacuity: a pair sharing key material (HMAC 256/64 header, HMAC 256/256 key) trips the check
example : algMismatch [(Msg.lbl 1, .int .u64 4)] 5 = true := by decide +kernel
example : algMismatch [(Msg.lbl 1, .int .i64 5)] 5 = false := by decide +kernel
example : algMismatch [(Msg.lbl 1, .str [0x35])] 5 = true := by decide +kernel
example : algMismatch [(Msg.lbl 1, .nil)] 5 = true := by decide +kernel

end Cose.Props.C05
