import Cose.Gen.Tables
/-!
# C11 / C12 / C13 / C14 — regenerated tie: the decisions of the primitive wrappers in the current source

The models of the MAC, AEAD, HKDF and ECDH wrappers (`Key/Impl.lean`, `Key/Prims.lean`, `Key/Ecdh.lean`) mirror
these functions: the `key_ops` gate first, then the length checks, then the one comparison.
`Gen.Tables.conds` holds the condition lists extracted from `/repo` on every run; they are pinned in full, one module per
family so that the four build side by side (`PrimShapeMac`, `PrimShapeAead`, `PrimShapeKdf`, `PrimShapeEcdh`): the
functions are a few lines each and every branch in them is a decision one of the four properties speaks about.
A tag comparison over a prefix, a truncation of the presented tag, a second accepted nonce length, a relaxed refusal of
private remote keys, a moved limit each change a list: the module stops building, and the correspondence families
(`prim:mac`, `prim:aead`, `prim:kdf`, `ecdh`) look for the input.
-/
namespace Cose.Props.PrimShapeMac

def condsOf (f : String) : Option (List String) := (Cose.Gen.Tables.conds.find? (fun r => r.1 == f)).map (·.2)

theorem mac_functions_conditions :
    condsOf "key_hmac.hMAC.MACCreate" = some ["if !h.key.Ops().EmptyOrHas(iana.KeyOperationMacCreate)"] ∧
    condsOf "key_hmac.hMAC.MACVerify" = some ["if !h.key.Ops().EmptyOrHas(iana.KeyOperationMacVerify)",
      "if hmac.Equal(expectedMAC, mac)"] ∧
    condsOf "key_aesmac.aesMAC.MACCreate" = some ["if !h.key.Ops().EmptyOrHas(iana.KeyOperationMacCreate)",
      "if len(data) == 0"] ∧
    condsOf "key_aesmac.aesMAC.MACVerify" = some ["if !h.key.Ops().EmptyOrHas(iana.KeyOperationMacVerify)",
      "if len(data) == 0", "if subtle.ConstantTimeCompare(expectedMAC, mac) == 1"] := by
  decide +kernel

end Cose.Props.PrimShapeMac
