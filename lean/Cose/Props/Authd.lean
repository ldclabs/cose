import Cose.Msg.Model
import Cose.Props.C04
/-!
# C02 / C03 / C04 — the authenticated bytes determine the kind and every authenticated item, all six kinds

`Props/C04.lean` proves injectivity for the COSE_Sign1 structure by hand.  Here the statement is made once for all six
(`C03.enc0_aad_injective` and `C02.sign1_tamper_is_forgery` are instances).  `Authd` is "what is authenticated" (kind, body
protected bytes, per-signature protected bytes for COSE_Sign, external data, payload), `Authd.cbor` its RFC 9052 structure.

* `authd_injective`: two well-formed `Authd` values with the same encoded structure are the same up to the one
  identification RFC 9052 makes (absent external data = empty external data) — so no change of kind, no move of
  octets between protected / external / payload, no change inside any of them, and (COSE_Sign) no change of the
  signer's own protected bucket leaves the authenticated bytes as they were;
* `tobe_is_authd`: what the library hands to the primitive (`tobe`, tied to the source literals by the regenerated
  layouts) is the encoding of exactly that structure, for every kind;
* `tamper_is_forgery`: hence if the library's to-be-authenticated bytes of two (kind, wire struct, signer bucket,
  external data) coincide, all authenticated items coincide — a verification that succeeds after any such change has
  accepted a signature / tag over bytes nobody produced.
-/
namespace Cose.Props.Authd
open Cose.Msg Cose.Go Cose.Cbor Cose.Spec.Rfc9052 Cose.Gen Cose.Props.C04

inductive Authd
  | sign1 (prot ext payload : Option Bytes)
  | sign (prot signProt ext payload : Option Bytes)
  | mac0 (prot ext payload : Option Bytes)
  | mac (prot ext payload : Option Bytes)
  | enc0 (prot ext : Option Bytes)
  | enc (prot ext : Option Bytes)
deriving DecidableEq, Repr

/-- the RFC 9052 structure (sections 4.4, 5.3, 6.3) -/
def Authd.cbor : Authd → Cbor
  | .sign1 p e y => sigStructure1 p e y
  | .sign p sp e y => sigStructure p sp e y
  | .mac0 p e y => macStructure0 p e y
  | .mac p e y => macStructure p e y
  | .enc0 p e => encStructure0 p e
  | .enc p e => encStructure p e

/-- absent external data is the empty string: the only identification the structures make -/
def normExt (e : Option Bytes) : Option Bytes := some (e.getD [])

def Authd.norm : Authd → Authd
  | .sign1 p e y => .sign1 p (normExt e) y
  | .sign p sp e y => .sign p sp (normExt e) y
  | .mac0 p e y => .mac0 p (normExt e) y
  | .mac p e y => .mac p (normExt e) y
  | .enc0 p e => .enc0 p (normExt e)
  | .enc p e => .enc p (normExt e)

/-- every byte string is shorter than 2⁶⁴ (true of any Go slice) -/
def Authd.Ok : Authd → Prop
  | .sign1 p e y => WFb p ∧ WFb e ∧ WFb y
  | .sign p sp e y => WFb p ∧ WFb sp ∧ WFb e ∧ WFb y
  | .mac0 p e y => WFb p ∧ WFb e ∧ WFb y
  | .mac p e y => WFb p ∧ WFb e ∧ WFb y
  | .enc0 p e => WFb p ∧ WFb e
  | .enc p e => WFb p ∧ WFb e

theorem wf_cbor {a : Authd} (h : a.Ok) : WF a.cbor := by
  cases a <;>
    exact wf_structure (by simp) (by simpa only [WFList, wf_asInMessage, wf_ext, and_true, Authd.Ok] using h) (by simp)

/-- the structures as CBOR values already determine everything: the context strings are pairwise different, so two
    equal structures are of one kind, and then member by member -/
theorem cbor_injective (a b : Authd) (h : a.cbor = b.cbor) : a.norm = b.norm := by
  cases a <;> cases b <;>
    simp only [Authd.cbor, sigStructure1, sigStructure, macStructure0, macStructure, encStructure0, encStructure,
      Cbor.arr.injEq, List.cons.injEq, Cbor.tstr.injEq, and_true, true_and, asInMessage_inj, externalAad_inj] at h <;>
    first
    | exact absurd h.1 (by decide) -- two kinds: the context strings differ
    | simp only [Authd.norm, normExt, h] -- one kind: `h` is the equality of the members, external data up to `getD []`

/-- **the authenticated bytes determine the kind and every authenticated item** (up to `norm`: absent external data is
    empty external data) -/
theorem authd_injective (a b : Authd) (ha : a.Ok) (hb : b.Ok) (h : encode a.cbor = encode b.cbor) :
    a.norm = b.norm :=
  cbor_injective a b (encode_inj (wf_cbor ha) (wf_cbor hb) h)

/-- the `Authd` of a wire struct of kind `k` (COSE_Sign: under the signer bucket `sp`) -/
def authdOf (k : Kind) (w : Wire) (sp : Bytes) (ext : Option Bytes) : Authd :=
  match k with
  | .sign1 => .sign1 w.prot ext w.payload
  | .sign => .sign w.prot (some sp) ext w.payload
  | .mac0 => .mac0 w.prot ext w.payload
  | .mac => .mac w.prot ext w.payload
  | .encrypt0 => .enc0 w.prot ext
  | .encrypt => .enc w.prot ext

/-- the bytes handed to the primitive, as the library computes them: signature kinds over the wire struct, COSE_Sign
    under the signer's bucket, encryption kinds over the wire struct with the ciphertext left out -/
def libTobe (k : Kind) (w : Wire) (sp : Bytes) (ext : Option Bytes) : Res Bytes :=
  match k with
  | .sign => tobe .sign w (some sp) ext
  | .encrypt0 => tobe .encrypt0 { w with payload := none } none ext
  | .encrypt => tobe .encrypt { w with payload := none } none ext
  | k => tobe k w none ext

/-- **the library authenticates exactly the RFC structure**, every kind -/
theorem tobe_is_authd (k : Kind) (w : Wire) (sp : Bytes) (ext : Option Bytes) :
    libTobe k w sp ext = .ok (encode (authdOf k w sp ext).cbor) := by
  cases k <;> rfl

theorem authdOf_ok (k : Kind) (w : Wire) (sp : Bytes) (ext : Option Bytes)
    (hp : WFb w.prot) (hy : WFb w.payload) (he : WFb ext) (hs : sp.length < two64) : (authdOf k w sp ext).Ok := by
  have hsp : WFb (some sp) := by intro x hx; cases hx; exact hs
  cases k <;> simp only [authdOf, Authd.Ok, hp, hsp, he, hy, and_self]

/-- **tampering is forgery, all six kinds**: if the bytes the library hands to the primitive coincide for two
    (kind, message, signer bucket, external data), then the kinds coincide and so does every authenticated item —
    body protected bytes, the signer's protected bytes (COSE_Sign), external data (absent = empty) and, for the
    signing and MAC kinds, the payload.  Contrapositive: whoever gets a changed kind, a changed or moved octet of any
    of these accepted, has a signature / tag / ciphertext valid for bytes that were never authenticated. -/
theorem tamper_is_forgery (k k' : Kind) (w w' : Wire) (sp sp' : Bytes) (ext ext' : Option Bytes)
    (hp : WFb w.prot) (hy : WFb w.payload) (he : WFb ext) (hs : sp.length < two64)
    (hp' : WFb w'.prot) (hy' : WFb w'.payload) (he' : WFb ext') (hs' : sp'.length < two64)
    (h : libTobe k w sp ext = libTobe k' w' sp' ext') :
    (authdOf k w sp ext).norm = (authdOf k' w' sp' ext').norm := by
  rw [tobe_is_authd, tobe_is_authd] at h
  simp only [Res.ok.injEq] at h
  exact authd_injective _ _ (authdOf_ok k w sp ext hp hy he hs) (authdOf_ok k' w' sp' ext' hp' hy' he' hs') h

/-- two signatures of one COSE_Sign whose signer buckets differ are over different bytes: the structure of one does not
    stand in for the other's -/
theorem sign_signer_bucket_is_authenticated (w : Wire) (sp sp' : Bytes) (ext : Option Bytes)
    (hp : WFb w.prot) (hy : WFb w.payload) (he : WFb ext) (hs : sp.length < two64) (hs' : sp'.length < two64)
    (hne : sp ≠ sp') : tobe .sign w (some sp) ext ≠ tobe .sign w (some sp') ext := by
  intro h
  have := tamper_is_forgery .sign .sign w w sp sp' ext ext hp hy he hs hp hy he hs' h
  simp only [authdOf, Authd.norm, Authd.sign.injEq, Option.some.injEq] at this
  exact hne this.2.1

/-- the bytes handed to the primitive for two different kinds differ, whatever the fields: those of a COSE_Mac0 are not
    those of a COSE_Mac, nor a COSE_Sign1's those of a COSE_Sign, nor a COSE_Encrypt0's those of a COSE_Encrypt -/
theorem kinds_separate (k k' : Kind) (hk : k ≠ k') (w w' : Wire) (sp sp' : Bytes) (ext ext' : Option Bytes)
    (hp : WFb w.prot) (hy : WFb w.payload) (he : WFb ext) (hs : sp.length < two64)
    (hp' : WFb w'.prot) (hy' : WFb w'.payload) (he' : WFb ext') (hs' : sp'.length < two64) :
    libTobe k w sp ext ≠ libTobe k' w' sp' ext' := by
  intro h
  have := tamper_is_forgery k k' w w' sp sp' ext ext' hp hy he hs hp' hy' he' hs' h
  cases k <;> cases k' <;> simp only [authdOf, Authd.norm] at this <;> first | exact hk rfl | cases this

-- non-vacuity: a concrete pair of different signer buckets
example : tobe .sign ⟨some [0xa0], none, some [1, 2, 3], none, none, none⟩ (some [0xa1, 0x01, 0x26]) none ≠
    tobe .sign ⟨some [0xa0], none, some [1, 2, 3], none, none, none⟩ (some [0xa2, 0x01, 0x26, 0x03, 0x00]) none :=
  sign_signer_bucket_is_authenticated _ _ _ none
    (by intro x hx; cases hx; simp [two64]) (by intro x hx; cases hx; simp [two64]) (by intro x hx; cases hx)
    (by simp [two64]) (by simp [two64]) (by decide)

end Cose.Props.Authd
