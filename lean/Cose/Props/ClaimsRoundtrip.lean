import Cose.Cwt.Claims
import Cose.Cbor.RawLemmas
import Cose.Cwt.Validator
import Cose.Go.Roundtrip
import Cose.Props.ClaimsTable
/-!
# C09 / C18 — the `cwt.Claims` struct survives CBOR

`claims_struct_roundtrip`: encode a `Claims` struct (`keyasint,omitempty`: zero-valued members are left out, the rest
come out under the labels 1..7 in ascending order), decode the bytes into a struct again with the model of
fxamacker's struct decoder (`claimsDecode`, tied by the `claims.*` ops): every member comes back, for issuers /
subjects / audiences of any length that are valid UTF-8, any three uint64 times and any CWT id; members that were
left out come back as their zero value, which is what they were.

The members are read off one table, `ClaimsForms.goFields` (Go values under the labels 1..7; `ClaimsForms` builds the
map form from the same table).  `encoded_map_raw` gives what the decoder finds in any encoded map up to the raw pairs,
`field_at` then reads one typed member back from the table.
-/
namespace Cose.Props.ClaimsRoundtrip
open Cose.Go Cose.Cbor Cose.Msg Cose.Cwt

/-- `omitempty`: a member that is `none` (the zero value of its Go type) is left out -/
def present {α} (es : List (Nat × Option α)) : List (Nat × α) :=
  es.filterMap (fun e => e.2.map (fun v => (e.1, v)))

theorem present_some {α} (k : Nat) (v : α) (r : List (Nat × Option α)) :
    present ((k, some v) :: r) = (k, v) :: present r := rfl

theorem mem_present {α} {es : List (Nat × Option α)} {k : Nat} {v : α} : (k, v) ∈ present es ↔ (k, some v) ∈ es := by
  unfold present; rw [List.mem_filterMap]
  constructor
  · rintro ⟨⟨_, _ | w⟩, he, h⟩ <;> cases h
    exact he
  · exact fun h => ⟨_, h, rfl⟩

def Item {α} (P : α → Prop) (o : Option α) : Prop := ∀ v, o = some v → P v

theorem item_ite {α} {P : α → Prop} (b : Bool) (v : α) (h : P v) : Item P (if b then none else some v) := by
  intro v' hv
  cases b
  · cases hv; exact h
  · cases hv

theorem present_forall {α} {es : List (Nat × Option α)} {P : Nat → α → Prop}
    (h : ∀ e ∈ es, Item (P e.1) e.2) : ∀ p ∈ present es, P p.1 p.2 :=
  fun p hp => h (p.1, some p.2) (mem_present.mp hp) p.2 rfl

theorem present_sorted {α} {es : List (Nat × Option α)} (h : es.Pairwise (fun a b => a.1 < b.1)) :
    (present es).Pairwise (fun a b => a.1 < b.1) := by
  refine List.Pairwise.filterMap _ ?_ h
  intro a a' hlt b hb b' hb'
  obtain ⟨_, _, rfl⟩ := Option.map_eq_some_iff.mp hb
  obtain ⟨_, _, rfl⟩ := Option.map_eq_some_iff.mp hb'
  exact hlt

theorem present_length_le {α} (es : List (Nat × Option α)) : (present es).length ≤ es.length :=
  List.length_filterMap_le _ _

theorem lookup_present {α} (es : List (Nat × Option α)) (hs : es.Pairwise (fun a b => a.1 < b.1)) (k : Nat) (o : Option α)
    (hm : es.lookup k = some o) : (present es).lookup k = o := by
  induction es with
  | nil => cases hm
  | cons e r ih =>
    obtain ⟨hlt, hr⟩ := List.pairwise_cons.mp hs
    obtain ⟨k', o'⟩ := e
    rw [List.lookup_cons] at hm
    cases hk : k == k' <;> rw [hk] at hm
    · cases o' with
      | none => exact ih hr hm
      | some v => rw [present_some, List.lookup_cons, hk]; exact ih hr hm
    · cases hm; cases eq_of_beq hk
      cases o with
      | some v => exact List.lookup_cons_self
      | none =>
        refine List.lookup_eq_none_iff.mpr (fun p hp => ?_)
        have := hlt _ (mem_present.mp hp)
        simp only [bne_iff_ne]; omega

/-- labels strictly increasing and below 24 (a one-byte head) -/
def Labels {α} (es : List (Nat × α)) : Prop := es.Pairwise (fun a b => a.1 < b.1) ∧ ∀ e ∈ es, e.1 < 24

theorem labels_1_7 {α} {es : List (Nat × α)} (h : es.map (·.1) = [1, 2, 3, 4, 5, 6, 7]) : Labels es := by
  have hs : (es.map (·.1)).Pairwise (· < ·) := by rw [h]; decide
  have hb : ∀ k ∈ es.map (·.1), k < 24 := by rw [h]; decide
  exact ⟨List.pairwise_map.mp hs, List.forall_mem_map.mp hb⟩

theorem Labels.present {α} {es : List (Nat × Option α)} (h : Labels es) : Labels (present es) :=
  ⟨present_sorted h.1, present_forall (P := fun k _ => k < 24) (fun e he _ _ => h.2 e he)⟩

def pair (p : Nat × GoVal) : Cbor × Cbor := (.uint p.1, cv p.2)

def members (es : List (Nat × Option GoVal)) : List (Cbor × Cbor) := (present es).map pair

/-- an empty CWT id is left out and comes back absent -/
def ctiNorm : Option Bytes → Option Bytes
  | some (x :: r) => some (x :: r)
  | _ => none

theorem members_cons_ite (b : Bool) (k : Nat) (v : GoVal) (es : List (Nat × Option GoVal)) :
    members ((k, if b then none else some v) :: es) = (if b then [] else [(Cbor.uint k, cv v)]) ++ members es := by
  cases b <;> rfl

theorem ofInt_nat (k : Nat) : Cbor.ofInt (k : Int) = .uint k := ofInt_of_nonneg (Int.natCast_nonneg k)

theorem cv_u64 (n : Nat) : cv (.int .u64 n) = .uint n := ofInt_nat n

theorem toCbor_eq (c : ClaimsS) : c.toCbor = .map (members (ClaimsForms.goFields c)) := by
  rcases c with ⟨iss, sub, aud, exp, nbf, iat, cti⟩
  simp only [ClaimsS.toCbor, ClaimsForms.goFields, members_cons_ite, cv_u64, List.append_assoc]
  rcases cti with _ | _ | ⟨x, r⟩ <;> rfl

/-- what is asked of the struct: lengths and times fit their CBOR heads (always true of Go values), text members are valid UTF-8 -/
def Ok (c : ClaimsS) : Prop :=
  c.iss.length < Cbor.two64 ∧ validUtf8 c.iss = true ∧ c.sub.length < Cbor.two64 ∧ validUtf8 c.sub = true ∧
  c.aud.length < Cbor.two64 ∧ validUtf8 c.aud = true ∧ c.exp < Cbor.two64 ∧ c.nbf < Cbor.two64 ∧ c.iat < Cbor.two64 ∧
  (∀ b, c.cti = some b → b.length < Cbor.two64)

def norm (c : ClaimsS) : ClaimsS := { c with cti := ctiNorm c.cti }

theorem encode_small (k : Nat) (h : k < 24) : encode (.uint k) = [u8 k] := by
  simp [encode, head, h]

theorem bytesLt_small {a b : Nat} (hab : a < b) (hb : b < 24) : bytesLt [u8 a] [u8 b] = true := by
  have lt : u8 a < u8 b := by rw [UInt8.lt_iff_toNat_lt, u8_toNat (by omega), u8_toNat (by omega)]; exact hab
  exact bytesLt_iff.2 ⟨(bytesLe_iff _ _).2 (List.cons_le_cons_iff.2 (.inl lt)), fun e => UInt8.ne_of_lt lt (List.cons.inj e).1⟩

theorem pairs_sorted (ps : List (Nat × GoVal)) (h : Labels ps) : KeysSorted (ps.map pair) := by
  unfold KeysSorted
  rw [encodePairs_eq_map, List.map_map, List.pairwise_map]
  refine h.1.imp_of_mem (fun {a b} _ hb hab => ?_)
  have := h.2 b hb
  show bytesLt (encode (.uint a.1)) (encode (.uint b.1)) = true
  rw [encode_small _ (by omega), encode_small _ this]
  exact bytesLt_small hab this

theorem pairs_wf (ps : List (Nat × GoVal)) (hk : ∀ p ∈ ps, p.1 < 24) (hv : ∀ p ∈ ps, Flat p.2) : WFPairs (ps.map pair) := by
  induction ps with
  | nil => trivial
  | cons p r ih =>
    rw [List.forall_mem_cons] at hk hv
    exact ⟨by simp only [WF, Cbor.two64]; omega, (flat_toCbor hv.1).2.1, ih hk.2 hv.2⟩

/-- the keys and values in sequence: the encoded map holds them like an array holds its members -/
def unpair (kvs : List (Cbor × Cbor)) : List Cbor := kvs.flatMap (fun kv => [kv.1, kv.2])

theorem unpair_cons (k v : Cbor) (r : List (Cbor × Cbor)) : unpair ((k, v) :: r) = k :: v :: unpair r := by
  simp [unpair]

theorem flatten_eq (kvs : List (Cbor × Cbor)) : flattenPairs (encodePairs kvs) = encodeList (unpair kvs) := by
  induction kvs with
  | nil => simp [encodePairs, flattenPairs, unpair, encodeList]
  | cons a r ih => obtain ⟨k, v⟩ := a; rw [unpair_cons]; simp [encodePairs, flattenPairs, encodeList, ih]

theorem unpair_wf (kvs : List (Cbor × Cbor)) (h : WFPairs kvs) : WFList (unpair kvs) := by
  induction kvs with
  | nil => simp [unpair, WFList]
  | cons a r ih =>
    obtain ⟨k, v⟩ := a; rw [unpair_cons]
    simp only [WFPairs] at h
    exact ⟨h.1, h.2.1, ih h.2.2⟩

theorem unpair_length (kvs : List (Cbor × Cbor)) : (unpair kvs).length = 2 * kvs.length := by
  induction kvs with
  | nil => rfl
  | cons a r ih => obtain ⟨k, v⟩ := a; rw [unpair_cons]; simp only [List.length_cons, ih]; omega

theorem splitPairs_unpair (kvs : List (Cbor × Cbor)) :
    splitPairs ((unpair kvs).map encode) = some (kvs.map (fun kv => (encode kv.1, encode kv.2))) := by
  induction kvs with
  | nil => rfl
  | cons a r ih => obtain ⟨k, v⟩ := a; rw [unpair_cons]; simp [splitPairs, ih]

theorem sum_lengths (xs : List Cbor) (a : Nat) :
    (xs.map encode).foldl (fun acc i => acc + i.length) a = a + (encodeList xs).length := by
  induction xs generalizing a with
  | nil => simp [encodeList]
  | cons x r ih => simp only [List.map_cons, List.foldl_cons, encodeList, List.length_append, ih]; omega

/-- **what the decoder finds in an encoded map**, step by step: the head is that of a map of so many pairs (so there is no
    tag to strip), `takeItems` cuts what follows into twice as many items that use it up, and these pair off into the
    encodings of the keys and values -/
theorem encoded_map_raw {kvs : List (Cbor × Cbor)} (hs : KeysSorted kvs) (hw : WFPairs kvs) (hn : kvs.length ≤ maxElems) :
    ∃ r items, decHead (encode (.map kvs)) = some (5, aiOf kvs.length, kvs.length, r) ∧
      takeItems (3 * (encode (.map kvs)).length + 3) (2 * kvs.length) r = some items ∧
      items.foldl (fun acc i => acc + i.length) 0 = r.length ∧
      splitPairs items = some (kvs.map fun kv => (encode kv.1, encode kv.2)) := by
  rw [encode_map_sorted hs, flatten_eq]
  -- the fuel `claimsDecode` gives `takeItems`, 3·|data| + 3: an item's `size` is at most three times its octets
  exact ⟨_, _, decHead_head 5 kvs.length _ (by decide) (lt_two64_of_le_maxElems hn),
    unpair_length kvs ▸ takeItems_encodeList_all (unpair kvs) (unpair_wf kvs hw) _ (by simp only [List.length_append]; omega),
    (sum_lengths _ 0).trans (Nat.zero_add _), splitPairs_unpair kvs⟩

/-- `claimsDecode`'s triple for a member: the decoded key, the key's encoding (compared for duplicates), the value's -/
def keyed (p : Nat × GoVal) : Option ClaimKey × Bytes × Bytes := (some (.int p.1), encode (.uint p.1), encode (cv p.2))

theorem claimKey_small (k : Nat) (h : k < 24) :
    claimKey (encode (.uint k)) = some (some (.int k), encode (.uint k)) := by
  unfold claimKey
  rw [decodeAll_encode (.uint k) (by simp only [WF, Cbor.two64]; omega) (by simp [depth])]
  have : k < 9223372036854775808 := by omega
  simp [this]

theorem mapM_keyed (ps : List (Nat × GoVal)) (h : ∀ p ∈ ps, p.1 < 24) :
    ((ps.map pair).map (fun kv => (encode kv.1, encode kv.2))).mapM
      (fun kv => (claimKey kv.1).map (fun ck => (ck.1, ck.2, kv.2))) = some (ps.map keyed) := by
  induction ps with
  | nil => rfl
  | cons p r ih =>
    rw [List.forall_mem_cons] at h
    simp only [List.map_cons, List.mapM_cons, pair, claimKey_small p.1 h.1, ih h.2]
    rfl

theorem keyed_nodup (ps : List (Nat × GoVal)) (h : Labels ps) : ((ps.map keyed).map (·.2.1)).Nodup := by
  have := of_decide_eq_true (nodupKeys_of_sorted (pairs_sorted ps h))
  rw [List.map_map] at this ⊢
  exact this

theorem find_keyed (ps : List (Nat × GoVal)) (k : Nat) :
    ((ps.map keyed).find? (keyIs k)).map (·.2.2) = (ps.lookup k).map fun v => encode (cv v) := by
  induction ps with
  | nil => rfl
  | cons p r ih =>
    obtain ⟨k', v⟩ := p
    have : keyIs k (keyed (k', v)) = (k == k') := by
      show ((k' : Int) == (k : Int)) = (k == k')
      rw [Bool.eq_iff_iff, beq_iff_eq, beq_iff_eq]; omega
    rw [List.map_cons, List.find?_cons, List.lookup_cons, this]
    cases k == k' <;> first | exact ih | rfl

/-- the typed member the decoder makes of label `k` (`l` is the same label as the decoder writes it): the zero value
    if the member was left out, else what the member's item decodes to -/
theorem field_at {α} (es : List (Nat × Option GoVal)) (hs : es.Pairwise (fun a b => a.1 < b.1))
    (hf : ∀ e ∈ es, Item Flat e.2) (k : Nat) (l : Int) (hl : l = k) (o : Option GoVal)
    (hm : es.lookup k = some o) (zero : α) (f : Cbor → Dec α) :
    fieldOf ((((present es).map keyed).find? (keyIs l)).map (·.2.2)) zero f = (o.map fun v => f (cv v)).getD (.ok zero) := by
  subst hl; rw [find_keyed, lookup_present es hs k o hm]
  cases o with
  | none => rfl
  | some v =>
    obtain ⟨l₁, l₂, e, _⟩ := List.lookup_eq_some_iff.mp hm
    obtain ⟨_, hw, hd, _⟩ := flat_toCbor (hf (k, some v) (e ▸ List.mem_append_right _ List.mem_cons_self) v rfl)
    simp only [Option.map_some, fieldOf, decodeAll_encode _ hw (Nat.le_trans hd (by decide)), Option.getD_some]

theorem str_member (s : Bytes) :
    (Option.map (fun v => strField (cv v)) (if s.isEmpty then none else some (.str s))).getD (.ok []) = .ok s := by
  cases s <;> rfl

theorem u64_member (n : Nat) :
    (Option.map (fun v => u64Field (cv v)) (if n == 0 then none else some (.int .u64 n))).getD (.ok 0) = .ok n := by
  cases n with
  | zero => rfl
  | succ m => show u64Field (cv (.int .u64 (m + 1 : Nat))) = _; rw [cv_u64]; rfl

theorem cti_member (o : Option Bytes) :
    (Option.map (fun v => bytesField (cv v)) (ClaimsForms.ctiGo o)).getD (.ok none) = .ok (ctiNorm o) := by
  rcases o with _ | _ | ⟨x, r⟩ <;> rfl

theorem flat_u64 (n : Nat) (h : n < Cbor.two64) : Flat (.int .u64 n) :=
  .scalar _ (.int _ _ (by unfold IntOk; unfold Cbor.two64 at h; omega) (fun _ => by omega))

theorem item_ctiGo (o : Option Bytes) (h : ∀ b, o = some b → b.length < Cbor.two64) : Item Flat (ClaimsForms.ctiGo o) := by
  intro v hv
  match o, h, hv with
  | some (x :: r), h, hv => cases hv; exact .scalar _ (.bytes _ (h _ rfl))

theorem goFields_flat (c : ClaimsS) (h : Ok c) : ∀ e ∈ ClaimsForms.goFields c, Item Flat e.2 := by
  obtain ⟨h1, u1, h2, u2, h3, u3, h4, h5, h6, h7⟩ := h
  simp only [ClaimsForms.goFields, List.forall_mem_cons]
  exact ⟨item_ite _ _ (.scalar _ (.str _ ⟨h1, u1⟩)), item_ite _ _ (.scalar _ (.str _ ⟨h2, u2⟩)),
    item_ite _ _ (.scalar _ (.str _ ⟨h3, u3⟩)), item_ite _ _ (flat_u64 _ h4), item_ite _ _ (flat_u64 _ h5),
    item_ite _ _ (flat_u64 _ h6), item_ctiGo _ h7, nofun⟩

theorem claims_struct_roundtrip (c : ClaimsS) (h : Ok c) : claimsDecode (encode c.toCbor) = .ok (norm c) := by
  have hes : Labels (ClaimsForms.goFields c) := labels_1_7 rfl
  have hps := hes.present
  have hfl := goFields_flat c h
  have hwf := pairs_wf _ hps.2 (present_forall (P := fun _ v => Flat v) hfl)
  have hn : ((present (ClaimsForms.goFields c)).map pair).length ≤ maxElems := by
    rw [List.length_map]; exact Nat.le_trans (present_length_le _) (by decide : 7 ≤ maxElems)
  rw [toCbor_eq, members]
  obtain ⟨r, items, hd, ht, hr, hp⟩ := encoded_map_raw (pairs_sorted _ hps) hwf hn
  -- leaves `claimsDecode`'s last `match`, over seven `fieldOf ((… .find? (keyIs k)).map (·.2.2)) zero f`
  simp only [claimsDecode, rawTagsOk, rawUntag, hd, Bool.not_true, Bool.false_eq_true, if_false, Nat.not_lt.mpr hn, ht, hr,
    bne_self_eq_false, hp, mapM_keyed _ hps.2, keyed_nodup _ hps, decide_true]
  have g := fun {α} => field_at (α := α) _ hes.1 hfl
  rw [g 1 1 rfl _ rfl, g 2 2 rfl _ rfl, g 3 3 rfl _ rfl, g 4 4 rfl _ rfl, g 5 5 rfl _ rfl, g 6 6 rfl _ rfl, g 7 7 rfl _ rfl,
    str_member, str_member, str_member, u64_member, u64_member, u64_member, cti_member]
  rfl

/-- what `Validator.Validate` reads of a decoded struct -/
def sview (c : ClaimsS) : SClaims :=
  { issuer := String.fromUTF8! (ByteArray.mk c.iss.toArray), audience := String.fromUTF8! (ByteArray.mk c.aud.toArray),
    exp := c.exp, nbf := c.nbf, iat := c.iat }

/-- **a claim set validates after transport as it did before**: the struct that comes out of the bytes gets the verdict
    of the struct that went in, under every validator -/
theorem struct_roundtrip_validates (o : VOpts) (c : ClaimsS) (h : Ok c) :
    ∃ c', claimsDecode (encode c.toCbor) = .ok c' ∧ validate o (sview c') = validate o (sview c) :=
  ⟨norm c, claims_struct_roundtrip c h, rfl⟩

/-- the premise is satisfiable by an ordinary claim set (issuer, audience, expiry, CWT id; no subject, nbf or iat) -/
example : Ok ⟨[0x6c, 0x64, 0x63], [], [0x61], 1444064944, 0, 0, some [1, 2]⟩ ∧
    norm ⟨[0x6c, 0x64, 0x63], [], [0x61], 1444064944, 0, 0, some [1, 2]⟩ = ⟨[0x6c, 0x64, 0x63], [], [0x61], 1444064944, 0, 0, some [1, 2]⟩ := by
  refine ⟨⟨by decide, by decide, by decide, by decide, by decide, by decide, by decide, by decide, by decide, ?_⟩, rfl⟩
  intro b hb; cases hb; decide

/-- an empty CWT id is the one value that does not come back as it went in: it is omitted, hence absent -/
example : norm ⟨[], [], [], 0, 0, 0, some []⟩ = ⟨[], [], [], 0, 0, 0, none⟩ := rfl

end Cose.Props.ClaimsRoundtrip
