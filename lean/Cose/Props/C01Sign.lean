import Cose.Props.C01
import Cose.Props.Lists
/-!
# C01 / C02 — COSE_Sign with any number of signers is accepted back

`sign_roundtrip`: signer by signer (`All2`; nothing is bounded by a sample size) — what each signer contributes (`Made`), what
the decoder makes of it (`Decoded`, `made_list`, `sign_decode`), and that a verifier list which *serves* the signers
(`Serves`: the signer's kid finds a verifier of the same algorithm that accepts what the signer signs) accepts each
(`verify_list`).  `serves_of_distinct_kids`: counterpart keys with pairwise different kids are such a list
(`sign_roundtrip_distinct_kids`).  Signature correctness (`SigCorrect`) is the only cryptographic assumption.
-/
namespace Cose.Props.C01Sign
open Cose.Msg Cose.Go Cose.Cbor Cose.Gen Cose.Props.C01

/-- what one signer contributes to the message: the default buckets of its key (`{1: alg}`, `{4: kid}`), and its
    signature over the structure under its own protected bytes -/
def Made (w : Wire) (ext : Option Bytes) (s : Signer) (so : SigObj) : Prop :=
  ∃ sp spb tb sig, fillProtected none s.key = .ok sp ∧ hdrBytes (some sp) = .ok spb ∧
    tobe .sign w (some spb) ext = .ok tb ∧ s.sign tb = .ok sig ∧
    so = ⟨sp, none, some (fillUnprotected none s.key), some sig⟩

theorem produceSign_go_spec {ext : Option Bytes} {w : Wire} {signers : List Signer} {acc out : List SigObj}
    (h : produceSign.go ext w signers acc = .ok out) :
    ∃ made, out = acc.reverse ++ made ∧ All2 (Made w ext) signers made := by
  induction signers generalizing acc with
  | nil =>
    cases h
    exact ⟨[], by simp, .nil⟩
  | cons s rest ih =>
    unfold produceSign.go at h
    simp only at h
    split at h <;> try cases h
    split at h <;> try cases h
    split at h <;> try cases h
    obtain ⟨made, hout, hall⟩ := ih h
    refine ⟨_ :: made, ?_, .cons ⟨_, _, _, _, rfl, ‹_›, ‹_›, ‹_›, rfl⟩ hall⟩
    rw [hout, List.reverse_cons, List.append_assoc]; rfl

theorem kid_map_wf (kid : Bytes) (hl : kid.length < two64) :
    WF (.map [(.uint 4, .bstr kid)]) ∧ depth (.map [(.uint 4, .bstr kid)]) = 1 :=
  ⟨by simpa [WF, WFPairs, KeysSorted, encodePairs, maxElems, hashableKey, two64] using hl, by simp [depth, depthPairs]⟩

/-- the unprotected bucket a signer's key fills in (`{4: kid}`, or the empty map without a kid) on its way: the item emitted
    is canonical as it stands, and whatever signature object holds the decoded bucket `uh` reports the signer's kid (the
    `[]byte` value comes back as a plain byte slice) -/
theorem signer_bucket (s : Signer) (hl : ∀ kid, s.key.kid = some kid → kid.length < two64) :
    ∃ c uh, hdrCbor (some (fillUnprotected none s.key)) = some c ∧ WF c ∧ depth c ≤ 1 ∧ hdrField c = .ok (some uh) ∧
      ∀ pm spb sig, (SigObj.kid ⟨pm, spb, some uh, sig⟩).getD [] = s.key.kid.getD [] := by
  have hempty : ∃ c uh, hdrCbor (some []) = some c ∧ WF c ∧ depth c ≤ 1 ∧ hdrField c = .ok (some uh) ∧
      ∀ pm spb sig, (SigObj.kid ⟨pm, spb, some uh, sig⟩).getD [] = [] :=
    ⟨.map [], [], rfl, hdrEnc_empty.wf, by simp [depth, depthPairs], rfl, fun _ _ _ => rfl⟩
  unfold fillUnprotected
  cases hkid : s.key.kid with
  | none => exact hempty
  | some kid =>
    cases kid with
    | nil => exact hempty
    | cons b r =>
      have hlbl : Msg.lbl Iana.HeaderParameterKid = Label.int 4 := rfl
      obtain ⟨hw, hd⟩ := kid_map_wf (b :: r) (hl _ hkid)
      exact ⟨.map [(.uint 4, .bstr (b :: r))], [(.int 4, .bytes (b :: r))],
        by simp [hdrCbor, CMap.toCbor, cmapPairs, toCbor, hlbl, Label.toCbor, Cbor.ofInt], hw, by omega,
        by simp [hdrField, untag, ofCborPairs, ofCbor, cmapOfPairs, checkKey, maxInt32],
        fun _ _ _ => by simp [SigObj.kid, CMap.lookup, hlbl, getBytes]⟩

/-- what the decoder makes of one produced signature, as far as `Verify` looks at it -/
def Decoded (w : Wire) (ext : Option Bytes) (s : Signer) (so : SigObj) : Prop :=
  ∃ spb pm uh tb sig, so = ⟨pm, some spb, uh, some sig⟩ ∧ so.kid.getD [] = s.key.kid.getD [] ∧
    algMismatch pm s.key.alg = false ∧ tobe .sign w (some spb) ext = .ok tb ∧ s.sign tb = .ok sig

/-- the hypotheses on one signer: its algorithm identifier fits a COSE integer label value, its kid a byte string -/
def SignerOk (s : Signer) : Prop :=
  (-2147483648 ≤ s.key.alg ∧ s.key.alg ≤ 2147483647) ∧ ∀ kid, s.key.kid = some kid → kid.length < two64

theorem made_list {w : Wire} {ext : Option Bytes} {signers : List Signer} {sigs : List SigObj}
    (h : All2 (Made w ext) signers sigs) (hs : ∀ s ∈ signers, SignerOk s)
    (hsl : ∀ so ∈ sigs, ∀ x, so.signature = some x → x.length < two64) :
    ∃ ss sigs', sigs.mapM sigCbor = some ss ∧ ss.length = signers.length ∧ WFList ss ∧ depthList ss ≤ 2 ∧
      decSeq sigField ss = .ok sigs' ∧ All2 (Decoded w ext) signers sigs' := by
  induction h with
  | nil => exact ⟨[], [], rfl, rfl, trivial, by simp [depthList], rfl, .nil⟩
  | @cons s so rest sigsr hm _ ih =>
    obtain ⟨ss, sigs', h1, h2, h3, h4, h5, h6⟩ := ih (fun x hx => hs x (List.mem_cons_of_mem _ hx))
      (fun x hx => hsl x (List.mem_cons_of_mem _ hx))
    obtain ⟨sp, spb0, tb, sig, hsp, hspb0, htb, hsig, rfl⟩ := hm
    obtain ⟨har, hkl⟩ := hs s (List.mem_cons_self ..)
    obtain ⟨pm, hspbl, hpm, hmm⟩ := default_bucket har hsp hspb0
    have hsigl : sig.length < two64 := hsl _ (List.mem_cons_self ..) sig rfl
    obtain ⟨c, uh, hsu, huw, hud, hsf, hkid⟩ := signer_bucket s hkl
    refine ⟨.arr [.bstr spb0, c, .bstr sig] :: ss, ⟨pm, some spb0, some uh, some sig⟩ :: sigs', ?_, ?_, ?_, ?_, ?_, ?_⟩
    · simp only [List.mapM_cons, sigCbor, hspb0, hsu, bytesCbor, h1]; rfl
    · simp [h2]
    · exact ⟨⟨by simp [maxElems], hspbl, huw, hsigl, trivial⟩, h3⟩
    · simp only [depthList, depth]; omega
    · simp only [decSeq, sigField, untag, bytesField, hsf, hpm, h5]
    · exact .cons ⟨spb0, pm, _, tb, sig, rfl, hkid _ _ _, hmm, htb, hsig⟩ h6

theorem sign_decode (mode : PMode) (w : Wire) {u' : Cbor} {uh : Hdr} (hu : HdrEnc w.unprot u' uh)
    (hp : ∀ x, w.prot = some x → x.length < two64) (hy : ∀ x, w.payload = some x → x.length < two64)
    {sigs sigs' : List SigObj} {cs : List Cbor} (hs : w.sigs = some sigs) (hcs : sigs.mapM sigCbor = some cs)
    (hwf : WF (.arr cs)) (hdepth : depthList cs + 3 < maxNesting) (hdec : decSeq sigField cs = .ok sigs')
    {pm : CMap} (hpm : hdrFromBytes w.prot = .ok pm)
    {pv : PVal} (hpv : payloadFromWire mode w.payload (zeroPayload mode) = .ok pv) :
    ∃ bytes, marshal .sign w = some bytes ∧ unmarshal .sign mode bytes =
      .ok ⟨.sign, some pm, uh, pv, some ⟨w.prot, uh, w.payload, none, some sigs', none⟩⟩ := by
  exact marshal_unmarshal .sign mode hu hp hy (tail := [.arr cs]) (w' := ⟨w.prot, uh, w.payload, none, some sigs', none⟩)
    (fun u hu1 => by simp [wireCbor, hu1, hs, hcs])
    ⟨hwf, trivial⟩ (by simp only [depth, depthList, maxNesting] at hdepth ⊢; omega) (by simp)
    (by simp only [wireOfCbor, untag_arr, bytesField_bytesCbor, hu.field, hdec])
    (.inl rfl) hpm hpv

/-- a verifier set serves a signer when looking up the signer's kid finds a verifier of the same algorithm that
    accepts what the signer signs -/
def Serves (vs : List Verifier) (s : Signer) : Prop :=
  ∃ v, lookupVerifier vs s.key.kid = some v ∧ v.key.alg = s.key.alg ∧ SigCorrect s.sign v.verify

theorem verify_list {vs : List Verifier} {ext : Option Bytes} {w : Wire} {signers : List Signer} {sigs' : List SigObj}
    (h : All2 (Decoded w ext) signers sigs') (hv : ∀ s ∈ signers, Serves vs s) :
    verifySign.go vs ext w sigs' = .ok () := by
  induction h with
  | nil => simp [verifySign.go]
  | @cons s so rest sigsr hd _ ih =>
    obtain ⟨spb, pm, uh, tb, sig, rfl, hkid, hmm, htb, hsig⟩ := hd
    obtain ⟨v, hlook, hva, hcorr⟩ := hv s (List.mem_cons_self ..)
    unfold lookupVerifier at hlook
    unfold verifySign.go
    simp only [lookupVerifier, hkid, hlook, hva, hmm, Bool.false_eq_true, if_false, htb, Option.getD_some, hcorr tb sig hsig]
    exact ih (fun x hx => hv x (List.mem_cons_of_mem _ hx))

/-- **COSE_Sign round trip, any number of signers**: a message signed by `signers` (default headers: each signature
    records the signer's algorithm and kid) is encoded, decoded and verified by every verifier set that serves each
    signer; the decoder returns the very body protected bytes and payload, one signature per signer, and the payload
    field holds the original bytes. -/
theorem sign_roundtrip (payload ext : Option Bytes) (signers : List Signer) (vs : List Verifier)
    (hs : ∀ s ∈ signers, SignerOk s) (hv : ∀ s ∈ signers, Serves vs s) (hn : signers.length ≤ maxElems)
    (m1 : Msg) (h : produceSign ⟨.sign, none, none, .bytes payload, none⟩ signers ext = .ok m1)
    (w : Wire) (hw : m1.mm = some w)
    (hpl : ∀ x, payload = some x → x.length < two64)
    (hsl : ∀ so ∈ w.sigs.getD [], ∀ x, so.signature = some x → x.length < two64) :
    ∃ bytes m2 w2, marshal .sign w = some bytes ∧ unmarshal .sign .raw bytes = .ok m2 ∧ m2.mm = some w2 ∧
      w2.prot = w.prot ∧ w2.payload = payload ∧ (w2.sigs.getD []).length = signers.length ∧
      m2.payload = .bytes (nonEmpty payload) ∧ verifySign m2 vs ext = .ok () := by
  obtain ⟨hne, pb, yb, sigs, hpb, hyb, hgo, rfl⟩ := produceSign_ok h
  cases hw
  cases hpb
  cases hyb
  simp only [Option.getD_some, Option.getD_none] at hsl hgo ⊢
  obtain ⟨made, rfl, hall⟩ := produceSign_go_spec hgo
  obtain ⟨ss, sigs', hss, hlen, hwf, hdepth, hdec, hdecoded⟩ := made_list hall hs hsl
  obtain ⟨bytes, hmar, hun⟩ := sign_decode .raw ⟨some [], some [], payload, none, some sigs, none⟩ hdrEnc_empty
    (fun x hx => by cases hx; simp [two64]) hpl rfl hss ⟨hlen ▸ hn, hwf⟩ (by unfold maxNesting; omega) hdec rfl
    (payloadFromWire_raw payload)
  refine ⟨_, _, _, hmar, hun, rfl, rfl, rfl, ?_, rfl, ?_⟩
  · simp only [Option.getD_some]; exact hdecoded.length_eq
  · cases hdecoded with
    | nil => cases hne
    | cons hd htl =>
      obtain ⟨v, hl, -⟩ := hv _ (List.mem_cons_self ..)
      have hvne : vs ≠ [] := by rintro rfl; cases hl
      rw [verifySign_eq rfl rfl hvne (List.cons_ne_nil _ _)]
      -- `Decoded` speaks of the produced wire struct, the goal of the decoded one: the same by unfolding, since `tobe` reads
      -- a wire struct through its protected bytes and payload only
      exact verify_list (.cons hd htl) hv

theorem serves_of_distinct_kids (pairs : List (Signer × Verifier))
    (hk : ∀ p ∈ pairs, p.2.key.kid.getD [] = p.1.key.kid.getD [] ∧ p.2.key.alg = p.1.key.alg ∧ SigCorrect p.1.sign p.2.verify)
    (hd : (pairs.map (fun p => p.1.key.kid.getD [])).Nodup) :
    ∀ p ∈ pairs, Serves (pairs.map (·.2)) p.1 := by
  -- looking up a signer's kid finds its own counterpart: no earlier pair has that kid
  have hfind : ∀ p ∈ pairs, lookupVerifier (pairs.map (·.2)) p.1.key.kid = some p.2 := by
    induction pairs with
    | nil => intro p hp; cases hp
    | cons q rest ih =>
      intro p hp
      unfold lookupVerifier
      rw [List.map_cons, List.find?_cons, (hk q (List.mem_cons_self ..)).1]
      rcases List.mem_cons.mp hp with rfl | hin
      · rw [beq_self_eq_true]
      · obtain ⟨hnotin, hdr⟩ := List.nodup_cons.mp hd
        rw [beq_false_of_ne fun he => hnotin (List.mem_map.mpr ⟨p, hin, he.symm⟩)]
        exact ih (fun x hx => hk x (List.mem_cons_of_mem _ hx)) hdr p hin
  intro p hp
  exact ⟨p.2, hfind p hp, (hk p hp).2⟩

theorem sign_roundtrip_distinct_kids (payload ext : Option Bytes) (pairs : List (Signer × Verifier))
    (hs : ∀ p ∈ pairs, SignerOk p.1)
    (hk : ∀ p ∈ pairs, p.2.key.kid.getD [] = p.1.key.kid.getD [] ∧ p.2.key.alg = p.1.key.alg ∧ SigCorrect p.1.sign p.2.verify)
    (hd : (pairs.map (fun p => p.1.key.kid.getD [])).Nodup) (hn : pairs.length ≤ maxElems)
    (m1 : Msg) (h : produceSign ⟨.sign, none, none, .bytes payload, none⟩ (pairs.map (·.1)) ext = .ok m1)
    (w : Wire) (hw : m1.mm = some w)
    (hpl : ∀ x, payload = some x → x.length < two64)
    (hsl : ∀ so ∈ w.sigs.getD [], ∀ x, so.signature = some x → x.length < two64) :
    ∃ bytes m2, marshal .sign w = some bytes ∧ unmarshal .sign .raw bytes = .ok m2 ∧
      m2.payload = .bytes (nonEmpty payload) ∧ verifySign m2 (pairs.map (·.2)) ext = .ok () := by
  obtain ⟨bytes, m2, _, h1, h2, _, _, _, _, h7, h8⟩ :=
    sign_roundtrip payload ext (pairs.map (·.1)) (pairs.map (·.2)) (List.forall_mem_map.mpr hs)
      (List.forall_mem_map.mpr (serves_of_distinct_kids pairs hk hd)) (by simpa using hn) m1 h w hw hpl hsl
  exact ⟨bytes, m2, h1, h2, h7, h8⟩

/-! ### non-vacuity: two concrete signers (a toy scheme whose "signature" is the data) with their verifiers -/

def toySign (k : UInt8) : Bytes → Res Bytes := fun d => .ok (k :: d)
def toyVerify (k : UInt8) : Bytes → Bytes → Res Unit := fun d s => if s == k :: d then .ok () else .err "bad"
def toyPairs : List (Signer × Verifier) :=
  [(⟨⟨-7, some [1], .ok none⟩, toySign 1⟩, ⟨⟨-7, some [1], .ok none⟩, toyVerify 1⟩),
   (⟨⟨-8, some [2, 2], .ok none⟩, toySign 2⟩, ⟨⟨-8, some [2, 2], .ok none⟩, toyVerify 2⟩)]

theorem toy_correct (k : UInt8) : SigCorrect (toySign k) (toyVerify k) := by
  intro d s h
  simp only [toySign, Res.ok.injEq] at h
  simp [toyVerify, h]

example : (∀ p ∈ toyPairs, SignerOk p.1) ∧
    (∀ p ∈ toyPairs, p.2.key.kid.getD [] = p.1.key.kid.getD [] ∧ p.2.key.alg = p.1.key.alg ∧ SigCorrect p.1.sign p.2.verify) ∧
    (toyPairs.map (fun p => p.1.key.kid.getD [])).Nodup ∧
    (match produceSign ⟨.sign, none, none, .bytes (some [9, 9]), none⟩ (toyPairs.map (·.1)) none with
     | .ok m => (m.mm.bind (·.sigs)).map List.length == some 2 | _ => false) = true := by
  refine ⟨?_, ?_, by decide, by decide +kernel⟩
  · intro p hp
    simp only [toyPairs, List.mem_cons, List.not_mem_nil, or_false] at hp
    rcases hp with rfl | rfl <;> exact ⟨by decide, by intro kid h; cases h; simp [two64]⟩
  · intro p hp
    simp only [toyPairs, List.mem_cons, List.not_mem_nil, or_false] at hp
    rcases hp with rfl | rfl <;> exact ⟨rfl, rfl, toy_correct _⟩

end Cose.Props.C01Sign
