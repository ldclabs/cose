import Cose.Key.KeySet
import Cose.Go.Roundtrip
import Cose.Props.Lists
/-!
# C09 / C17 — a key set survives CBOR, key by key

`keyset_roundtrip`: encode a list of at most `maxElems` keys (`KeyOk`: each a label map with pairwise distinct in-range
labels and scalar / list values, entries in whatever order Go presents them), decode the bytes: as many keys come back,
in the same order, and each answers every look-up like the key it came from, values in their decoded form
(`All2 Back`).
-/
namespace Cose.Props.KeySetRoundtrip
open Cose.Msg Cose.Go Cose.Cbor Cose.Key Cose.Props.C01Sign

def KeyOk (k : CMap) : Prop := (∀ kv ∈ k, EntryOk kv) ∧ (k.map (·.1)).Nodup ∧ k.length ≤ maxElems

/-- a key and what it decodes to; the second component is the hypothesis `hlook` of `C17.decoded_key_interchangeable` -/
def Back (k k' : CMap) : Prop := k'.length = k.length ∧ ∀ l, k'.lookup l = (k.lookup l).map normV

theorem keys_list : ∀ (ks : List CMap), (∀ k ∈ ks, KeyOk k) →
    ∃ cs cs' ks', ks.mapM CMap.toCbor = some cs ∧ encodeList cs = encodeList cs' ∧ cs.length = ks.length ∧ cs'.length = ks.length ∧
      WFList cs' ∧ depthList cs' ≤ 2 ∧ decSeq keyItem cs' = .ok ks' ∧ All2 Back ks ks'
  | [], _ => ⟨[], [], [], rfl, rfl, rfl, rfl, trivial, by simp [depthList], rfl, .nil⟩
  | k :: rest, h => by
    obtain ⟨cs, cs', ks', h1, h2, h3a, h3, h4, h5, h6, h7⟩ := keys_list rest (fun k' hk' => h k' (List.mem_cons_of_mem _ hk'))
    obtain ⟨hok, hnd, hlen⟩ := h k List.mem_cons_self
    obtain ⟨c, ps, g, k', htc, henc, hwf, hdepth, hof, hcm, hl, hlook⟩ := cmap_item k hok hnd hlen
    refine ⟨c :: cs, .map ps :: cs', k' :: ks', ?_, ?_, by simp [h3a], by simp [h3], ⟨hwf, h4⟩, ?_, ?_, .cons ⟨hl, hlook⟩ h7⟩
    · simp only [List.mapM_cons, htc, h1]; rfl
    · simp only [encodeList, henc, h2]
    · simp only [depthList]; omega
    · simp only [decSeq, keyItem, hdrField, untag, hof, hcm, h6]

/-- **`KeySet` CBOR round trip**, for a list of at most `maxElems` keys -/
theorem keyset_roundtrip (ks : List CMap) (hk : ∀ k ∈ ks, KeyOk k) (hn : ks.length ≤ maxElems) :
    ∃ b ks', keysetEncode ks = some b ∧ keysetDecode b = .ok (some ks') ∧ All2 Back ks ks' := by
  obtain ⟨cs, cs', ks', h1, h2, h3a, h3, h4, h5, h6, h7⟩ := keys_list ks hk
  have hlen : cs.length = cs'.length := by omega
  refine ⟨encode (.arr cs), ks', by simp [keysetEncode, h1], ?_, h7⟩
  have henc : encode (.arr cs) = encode (.arr cs') := by simp only [encode, hlen, h2]
  have hwf : WF (.arr cs') := ⟨by rw [h3]; exact hn, h4⟩
  have hd : depth (.arr cs') ≤ maxNesting := by simp only [depth, maxNesting]; omega
  unfold keysetDecode
  rw [henc, decodeAll_encode _ hwf hd]
  simp only [Option.map_some, untag, h6]

theorem keyset_roundtrip_length (ks ks' : List CMap) (h : All2 Back ks ks') : ks'.length = ks.length :=
  All2.length_eq h

end Cose.Props.KeySetRoundtrip
