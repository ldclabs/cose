import Cose.Key.Impl
import Cose.Key.Ec
import Cose.Props.C11
import Cose.Props.C12
import Cose.Go.Roundtrip
import Cose.Go.Lemmas
import Cose.Msg.Model
/-!
# C17 — keys survive serialisation and always dispatch to their own algorithm

* `key_survives_cbor`: for every key with distinct in-range labels and scalar / list members, in any entry order,
  `UnmarshalCBOR(MarshalCBOR(k))` succeeds and gives a key interchangeable with `k`.  It is `cmap_roundtrip`
  (`Cose/Go/Roundtrip.lean`) followed by `decoded_key_interchangeable`, which speaks of any map that answers every
  look-up with the decoded form of the key's answer (the second part of `KeySetRoundtrip.Back` is that hypothesis).
  The round trip changes only the Go *kinds* of integers (`int` ↦ `uint64` / `int64`) and the slice types, and the
  accessors are insensitive to that (`toInt_kind_insensitive`, `getBytes_kind_insensitive`, `ops_kind_insensitive`).
  JSON and text wrap the same CBOR bytes in hex (`ByteStr`): `Props/KeyTextForms.lean`;
* dispatch looks only at the triple (kty, alg, crv) (`tripleKey`, `registered`); the registry — **regenerated from the
  `register.go` files** — is the 24 algorithms in 28 registrations, without duplicates (`registry_is_exactly`,
  `registry_no_duplicates`, `registry_24_algorithms`); `defaults_when_alg_absent`; a nil key, an unregistered triple
  and a key without key type reach no implementation (`nil_key_fails`, `unregistered_fails`,
  `no_kty_no_implementation`);
* the implementation obtained has the sizes of the key's algorithm (`macer_realises_alg`, `encryptor_nonce_sizes`; the
  tables are those of C11 / C12);
* look-up by key id in a key set and in a verifier list (`keySetLookup`, `lookup_exact`, `verifier_lookup_exact`).
-/
namespace Cose.Props.C17
open Cose.Key Cose.Go Cose.Gen Cose.Gen.Tables

/-- (kind, kty, alg, crv, package) of each registration -/
def expectedRegistry : List (String × Int × Int × Int × String) :=
  [("Encryptor", 4, 1, 0, "key/aesgcm"), ("Encryptor", 4, 2, 0, "key/aesgcm"), ("Encryptor", 4, 3, 0, "key/aesgcm"),
   ("Encryptor", 4, 10, 0, "key/aesccm"), ("Encryptor", 4, 11, 0, "key/aesccm"), ("Encryptor", 4, 12, 0, "key/aesccm"),
   ("Encryptor", 4, 13, 0, "key/aesccm"), ("Encryptor", 4, 24, 0, "key/chacha20poly1305"),
   ("Encryptor", 4, 30, 0, "key/aesccm"), ("Encryptor", 4, 31, 0, "key/aesccm"), ("Encryptor", 4, 32, 0, "key/aesccm"),
   ("Encryptor", 4, 33, 0, "key/aesccm"),
   ("MACer", 4, 4, 0, "key/hmac"), ("MACer", 4, 5, 0, "key/hmac"), ("MACer", 4, 6, 0, "key/hmac"), ("MACer", 4, 7, 0, "key/hmac"),
   ("MACer", 4, 14, 0, "key/aesmac"), ("MACer", 4, 15, 0, "key/aesmac"), ("MACer", 4, 25, 0, "key/aesmac"), ("MACer", 4, 26, 0, "key/aesmac"),
   ("Signer", 2, -36, 3, "key/ecdsa"), ("Signer", 2, -35, 2, "key/ecdsa"), ("Signer", 1, -8, 6, "key/ed25519"), ("Signer", 2, -7, 1, "key/ecdsa"),
   ("Verifier", 2, -36, 3, "key/ecdsa"), ("Verifier", 2, -35, 2, "key/ecdsa"), ("Verifier", 1, -8, 6, "key/ed25519"), ("Verifier", 2, -7, 1, "key/ecdsa")]

theorem registry_is_exactly :
    registry.map (fun r => (r.kind, r.kty, r.alg, r.crv, r.pkg)) = expectedRegistry := by decide +kernel

/-- a second registration of one (kind, kty, alg, crv) panics at init -/
theorem registry_no_duplicates : (registry.map (fun r => (r.kind, r.kty, r.alg, r.crv))).Nodup := by decide +kernel

theorem registry_24_algorithms : ((registry.map (·.alg)).eraseDups).length = 24 := by decide +kernel

/-- a congruence and nothing more: that dispatch sees a key through its triple only is how `newSym`, `newSigner` and
    `newVerifier` are written (the factory is `registered kind (tripleKey k)`) -/
theorem dispatch_depends_only_on_triple (kind : String) (k k' : Key) (h : tripleKey k = tripleKey k') :
    registered kind (tripleKey k) = registered kind (tripleKey k') := by rw [h]

theorem nil_key_fails (kind : String) :
    newSym kind none = .err "nil-key" ∧ newSigner none = .err "nil-key" ∧ newVerifier none = .err "nil-key" :=
  ⟨rfl, rfl, rfl⟩

theorem unregistered_fails (kind : String) (k : Key) (h : registered kind (tripleKey k) = none) :
    newSym kind (some k) = .err "not-registered" := by
  unfold newSym; simp [h]

theorem unregistered_signer_fails (k : Key) (h : registered "Signer" (tripleKey k) = none) :
    newSigner (some k) = .err "not-registered" := by
  unfold newSigner; simp [h]

/-- `h0`: `Alg()` answers 0 — the key has no alg member (or a zero one) and its curve names no algorithm (`crvAlg_table`) -/
theorem defaults_when_alg_absent (k : Key) (h0 : alg k = 0) :
    (kty k = Iana.KeyTypeOKP → tripleKey k = (Iana.KeyTypeOKP, Iana.AlgorithmEdDSA, Iana.EllipticCurveEd25519)) ∧
    (kty k = Iana.KeyTypeEC2 → tripleKey k = (Iana.KeyTypeEC2, Iana.AlgorithmES256, Iana.EllipticCurveP_256)) := by
  unfold tripleKey
  simp only [h0, beq_self_eq_true, if_true]
  exact ⟨fun h => by rw [h]; rfl, fun h => by rw [h]; rfl⟩

/-- the regenerated `key.CrvAlg`: by curve, the algorithm `Alg()` answers for a key without alg member -/
theorem crvAlg_table :
    sw_key_CrvAlg.irows = [(1, [-7]), (2, [-35]), (3, [-36]), (6, [-8]), (7, [-8]), (8, [-47])] ∧
    sw_key_CrvAlg.idflt = [0] := by decide +kernel

theorem toInt_kind_insensitive (k k' : IntKind) (v : Int) (hk : k.signed = false → 0 ≤ v) (hk' : k'.signed = false → 0 ≤ v) :
    toInt (.int k v) = toInt (.int k' v) := by
  rw [toInt_int k v hk, toInt_int k' v hk']

theorem getBytes_kind_insensitive (b : Bytes) : getBytes (some (.bytes b)) = getBytes (some (.bstr b)) := rfl

theorem toIntList_map {α} (f : α → GoVal) (g : α → Int) : ∀ (xs : List α), (∀ x ∈ xs, toInt (f x) = .ok (g x)) →
    toIntList (xs.map f) = some (xs.map g)
  | [], _ => rfl
  | x :: xs, h => by
    simp only [List.map_cons, toIntList, h x List.mem_cons_self,
      toIntList_map f g xs fun y hy => h y (List.mem_cons_of_mem _ hy)]

theorem toIntList_congr (f : GoVal → GoVal) : ∀ (xs : List GoVal), (∀ x ∈ xs, toInt (f x) = toInt x) →
    toIntList (xs.map f) = toIntList xs
  | [], _ => rfl
  | x :: xs, h => by
    simp only [List.map_cons, toIntList, h x List.mem_cons_self,
      toIntList_congr f xs fun y hy => h y (List.mem_cons_of_mem _ hy)]

/-- what a decoder makes of key_ops, a `[]any` of `uint64`, reads as the list that `key.Ops` / `[]int` hold
    (`C16.ops_representation_independent`) -/
theorem ops_kind_insensitive (xs : List Int) (h : ∀ x ∈ xs, 0 ≤ x ∧ x ≤ 2147483647) :
    toIntList (xs.map (fun n => GoVal.int .u64 n)) = some xs := by
  rw [toIntList_map _ id xs, List.map_id]
  intro x hx
  rw [toInt_int _ _ fun _ => (h x hx).1, if_pos ⟨Int.le_trans (by decide) (h x hx).1, (h x hx).2⟩]
  rfl

/-- **the implementation obtained realises the key's algorithm**, the HMAC instance: the tag has the length the table
    gives for the algorithm of the key the object was made from (C11); the AEAD nonce sizes are `encryptor_nonce_sizes` -/
theorem macer_realises_alg (m : SymImpl) (hf : m.fam = .hmac) (tag data : Bytes) (cur : Option (List Int))
    (h : m.macCreate cur data = .ok tag)
    (hsha : (∀ x, (Cose.Crypto.sha256 x).length = 32) ∧ (∀ x, (Cose.Crypto.sha384 x).length = 48) ∧ (∀ x, (Cose.Crypto.sha512 x).length = 64))
    (halg : alg m.key ∈ Cose.Props.C11.rfcHmac.map (·.1)) : tag.length = hmacTagSize (alg m.key) := by
  obtain ⟨-, h⟩ := Res.of_guard_ok h
  simp only [hf] at h
  split at h <;> cases h
  exact Cose.Props.C11.hmac_tag_length _ _ _ _ ‹_› hsha halg

theorem encryptor_nonce_sizes (m : SymImpl) :
    (m.fam = .aesgcm → m.nonceSize = 12) ∧ (m.fam = .chacha → m.nonceSize = 12) ∧
    (m.fam = .aesccm → m.nonceSize = ccmNonceSize (alg m.key)) := by
  unfold SymImpl.nonceSize
  exact ⟨fun h => by rw [h, C12.gcmNonceSize_eq], fun h => by rw [h, C12.chachaNonceSize_eq], fun h => by rw [h]⟩

theorem toIntList_normInt (xs : List Int) (h : ∀ x ∈ xs, minInt32 ≤ x ∧ x ≤ maxInt32) :
    toIntList (xs.map normInt) = some xs := by
  rw [toIntList_map _ id xs, List.map_id]
  intro x hx
  rw [toInt_normInt .int x nofun, toInt_int .int x nofun, if_pos (h x hx)]
  rfl

theorem toInt_normS {x : GoVal} (h : Scalar x) : toInt (normS x) = toInt x := by
  cases h with
  | int k v _ hk => exact toInt_normInt k v hk
  | _ => rfl

/-- key_ops lists given as `key.Ops` / `[]int` hold operation numbers (any int32 would do) -/
def OpsInRange (k : Key) : Prop :=
  ∀ xs, (k.lookup (lbl Iana.KeyParameterKeyOps) = some (.ops xs) ∨ k.lookup (lbl Iana.KeyParameterKeyOps) = some (.ints xs)) →
    ∀ x ∈ xs, minInt32 ≤ x ∧ x ≤ maxInt32

theorem ops_of_decoded {k k' : Key} (hok : ∀ kv ∈ k, EntryOk kv) (hops : OpsInRange k)
    (hlook : k'.lookup (lbl Iana.KeyParameterKeyOps) = (k.lookup (lbl Iana.KeyParameterKeyOps)).map normV) :
    ops k' = ops k := by
  unfold ops
  rw [hlook]
  cases hv : k.lookup (lbl Iana.KeyParameterKeyOps) with
  | none => rfl
  | some v =>
    cases flat_of_lookup hok hv with
    | scalar v hs =>
      cases hs with
      | int k v _ _ =>
        obtain ⟨k', e, -⟩ := normInt_kind v
        rw [Option.map_some, normV_int, e]
      | _ => rfl
    | ints xs _ _ => exact toIntList_normInt xs (hops xs (.inr hv))
    | ops xs _ _ => exact toIntList_normInt xs (hops xs (.inl hv))
    | list xs hx _ => exact toIntList_congr normS xs fun x h => toInt_normS (hx x h)

/-- **a key and its decoded form are interchangeable**.  `hlook`: `k'` answers every look-up with the decoded form
    (`normV`) of what `k` answers — the key after `UnmarshalCBOR(MarshalCBOR(k))` is such a map (`key_survives_cbor`), and
    so is a member of a decoded key set (second part of `KeySetRoundtrip.Back`).  The exception in the second conjunct:
    a nil `[]byte` is written as null and read back as untyped nil, which `GetBytes` refuses -/
theorem decoded_key_interchangeable {k k' : Key} (hok : ∀ kv ∈ k, EntryOk kv) (hops : OpsInRange k)
    (hlook : ∀ l, k'.lookup l = (k.lookup l).map normV) :
    (∀ l, getInt (k'.lookup l) = getInt (k.lookup l)) ∧
    (∀ l, k.lookup l ≠ some .bnil → getBytes (k'.lookup l) = getBytes (k.lookup l)) ∧
    kty k' = kty k ∧ alg k' = alg k ∧ tripleKey k' = tripleKey k ∧
    (∀ kind, registered kind (tripleKey k') = registered kind (tripleKey k)) ∧
    ops k' = ops k := by
  have hint : ∀ l, getInt (k'.lookup l) = getInt (k.lookup l) := fun l => by
    rw [hlook l, getInt_map_normV fun _ => flat_of_lookup hok]
  have hbytes : ∀ l, k.lookup l ≠ some .bnil → getBytes (k'.lookup l) = getBytes (k.lookup l) := fun l hn => by
    rw [hlook l, getBytes_map_normV hn]
  have hkty : kty k' = kty k := by unfold kty; rw [hint]
  have halg : alg k' = alg k := by unfold alg; rw [hint, hint]
  have htriple : tripleKey k' = tripleKey k := by unfold tripleKey; rw [hkty, halg, hint]
  exact ⟨hint, hbytes, hkty, halg, htriple, fun kind => by rw [htriple], ops_of_decoded hok hops (hlook _)⟩

/-- **a key survives its CBOR form**: the encoding of a key decodes, and the result is interchangeable with the original
    in the sense of `decoded_key_interchangeable` — same kty, alg, dispatch triple (hence the same registered Signer /
    Verifier / MACer / Encryptor), same key_ops, and `GetInt` / `GetBytes` read every member as before (k, d, x, y, kid,
    Base IV, …; not a nil `[]byte`). -/
theorem key_survives_cbor (k : Key) (hok : ∀ kv ∈ k, EntryOk kv) (hnd : (k.map (·.1)).Nodup)
    (hlen : k.length ≤ Cose.Cbor.maxElems) (hops : OpsInRange k) :
    ∃ b k', encodeCMap k = some b ∧ decodeCMap b = .ok k' ∧ k'.length = k.length ∧
      (∀ l, getInt (k'.lookup l) = getInt (k.lookup l)) ∧
      (∀ l, k.lookup l ≠ some .bnil → getBytes (k'.lookup l) = getBytes (k.lookup l)) ∧
      kty k' = kty k ∧ alg k' = alg k ∧ tripleKey k' = tripleKey k ∧
      (∀ kind, registered kind (tripleKey k') = registered kind (tripleKey k)) ∧
      ops k' = ops k := by
  obtain ⟨b, k', henc, hdec, hl, hlook⟩ := cmap_roundtrip k hok hnd hlen
  exact ⟨b, k', henc, hdec, hl, decoded_key_interchangeable hok hops hlook⟩

/-- HMAC 256/256 with kid and key_ops -/
def sampleKey : Key :=
  [(lbl 1, .int .int 4), (lbl 3, .int .alg 5), (lbl 2, .bytes [1, 2]), (lbl 4, .ops [9, 10]), (lbl (-1), .bytes (List.replicate 32 7))]

-- non-vacuity: the sample key meets every hypothesis of `key_survives_cbor`
example : (∀ kv ∈ sampleKey, EntryOk kv) ∧ (sampleKey.map (·.1)).Nodup ∧ sampleKey.length ≤ Cose.Cbor.maxElems ∧
    OpsInRange sampleKey ∧ kty sampleKey = 4 := by
  refine ⟨?_, by decide, by decide, ?_, by decide⟩
  · intro kv h
    simp only [sampleKey, List.mem_cons, List.mem_nil_iff, or_false] at h
    rcases h with rfl | rfl | rfl | rfl | rfl
    · exact ⟨by decide, .scalar _ (.int _ _ (by decide) (by intro h; cases h))⟩
    · exact ⟨by decide, .scalar _ (.int _ _ (by decide) (by intro h; cases h))⟩
    · exact ⟨by decide, .scalar _ (.bytes _ (by decide))⟩
    · exact ⟨by decide, .ops _ (by decide) (by decide)⟩
    · exact ⟨by decide, .scalar _ (.bytes _ (by decide))⟩
  · intro xs h
    have e : sampleKey.lookup (lbl Iana.KeyParameterKeyOps) = some (.ops [9, 10]) := rfl
    rw [e] at h
    rcases h with h | h <;> cases h
    decide

/-- `KeySet.Lookup`: the first key whose `Kid()` is byte-equal (nil and empty are equal) -/
def keySetLookup (ks : List Key) (kidv : Option Bytes) : Option Key :=
  ks.find? (fun k => (kid k).getD [] == kidv.getD [])

theorem lookup_exact (ks : List Key) (kidv : Option Bytes) (k : Key) (h : keySetLookup ks kidv = some k) :
    (kid k).getD [] = kidv.getD [] ∧ k ∈ ks :=
  find?_attr_some h

/-- the `none` case only; that an entry returned is the first match is `List.find?` in `keySetLookup` -/
theorem lookup_first (ks : List Key) (kidv : Option Bytes) :
    keySetLookup ks kidv = none ↔ ∀ k ∈ ks, (kid k).getD [] ≠ kidv.getD [] :=
  find?_attr_none

theorem verifier_lookup_exact (vs : List Cose.Msg.Verifier) (kidv : Option Bytes) (v : Cose.Msg.Verifier)
    (h : Cose.Msg.lookupVerifier vs kidv = some v) : v.key.kid.getD [] = kidv.getD [] ∧ v ∈ vs :=
  find?_attr_some h

theorem verifier_lookup_none (vs : List Cose.Msg.Verifier) (kidv : Option Bytes) :
    Cose.Msg.lookupVerifier vs kidv = none ↔ ∀ v ∈ vs, v.key.kid.getD [] ≠ kidv.getD [] :=
  find?_attr_none

theorem registry_has_no_kty_zero : Tables.registry.all (fun r => r.kty != 0) = true := by decide +kernel

theorem tripleKey_fst (k : Key) : (tripleKey k).1 = kty k := by
  simp only [tripleKey, apply_ite Prod.fst, ite_self]

/-- `kty k = 0` is what a key answers whose kty member is missing, zero, null or not an integer: the key type is not
    inferred from curve or algorithm -/
theorem no_kty_no_implementation (kind : String) (k : Key) (h : kty k = 0) : registered kind (tripleKey k) = none := by
  unfold registered
  rw [List.find?_eq_none.mpr]
  intro r hr
  have hk : r.kty ≠ 0 := by simpa using List.all_eq_true.mp registry_has_no_kty_zero r hr
  simp [tripleKey_fst, h, hk]

end Cose.Props.C17
