import Cose.Key.Impl
import Cose.Key.EcLemmas
/-!
# C16 — key_ops restrictions are enforced for every operation

Model: `Key.ops` (the three representations `key.Ops`, `[]int`, `[]any` of any integer kinds), the family
whitelists **read from the generated CheckKey skeletons**, the construct-time check (`labelsOk`) and the
per-call gate (`opsEmptyOrHas` on the key_ops the key holds *at call time*).

Theorems: `gate_iff` and the seven `*_gated` (the gate, and every operation behind it), `narrowing_takes_effect`,
`foreign_op_refused_at_construction`, `derived_public_ops`, `ops_representation_independent`,
`key_operation_numbers_are_rfc9052`.

One clause of the property — "a key whose key_ops cannot be interpreted as a list of integers is not usable for
anything" — is **false of the library** (known finding, DESIGN §9 D9): `Ops()` returns nil for such a value and
nil means unrestricted.  `malformed_ops_unusable_cex` is the counter-example, replayed on the real code by the spec op
`impl.malformed`; the theorem proved instead is the one for interpretable lists, `interpretable_ops_enforced_partial`.
-/
namespace Cose.Props.C16
open Cose.Key Cose.Go Cose.Gen Cose.Gen.Tables

theorem family_ops_whitelists :
    ck_key_hmac.ops = [9, 10] ∧ ck_key_aesmac.ops = [9, 10] ∧ ck_key_aesgcm.ops = [3, 4] ∧ ck_key_aesccm.ops = [3, 4] ∧
    ck_key_chacha20poly1305.ops = [3, 4] ∧ ck_key_ed25519.ops = [1, 2] ∧ ck_key_ecdsa.ops = [1, 2] ∧
    ck_key_ecdh.ops = [7, 8] ∧
    (checkKeys.all (fun f => f.hasOpsCase && f.rejectsOtherLabels)) = true := by decide +kernel

theorem gate_iff (l : List Int) (op : Int) : opsEmptyOrHas (some l) op = true ↔ (l = [] ∨ op ∈ l) := by
  unfold opsEmptyOrHas
  cases l <;> simp

theorem gate_false_iff (l : List Int) (op : Int) : opsEmptyOrHas (some l) op = false ↔ (l ≠ [] ∧ op ∉ l) := by
  rw [← Bool.not_eq_true, gate_iff, not_or]

theorem gate_err {α} {cur : Option (List Int)} {op : Int} {b : Res α} (h : opsEmptyOrHas cur op = false) :
    (if !opsEmptyOrHas cur op then .err "key-ops" else b) = .err "key-ops" := by
  rw [h]; rfl

theorem macCreate_gated (m : SymImpl) (cur : Option (List Int)) (data : Bytes)
    (h : opsEmptyOrHas cur opMacCreate = false) : m.macCreate cur data = .err "key-ops" := gate_err h
theorem macVerify_gated (m : SymImpl) (cur : Option (List Int)) (data mac : Bytes)
    (h : opsEmptyOrHas cur opMacVerify = false) : m.macVerify cur data mac = .err "key-ops" := gate_err h
theorem encrypt_gated (m : SymImpl) (cur : Option (List Int)) (iv pt aad : Bytes)
    (h : opsEmptyOrHas cur opEncrypt = false) : m.encrypt cur iv pt aad = .err "key-ops" := gate_err h
theorem decrypt_gated (m : SymImpl) (cur : Option (List Int)) (iv ct aad : Bytes)
    (h : opsEmptyOrHas cur opDecrypt = false) : m.decrypt cur iv ct aad = .err "key-ops" := gate_err h
theorem sign_gated (s : SignerImpl) (cur : Option (List Int)) (data : Bytes)
    (h : opsEmptyOrHas cur opSign = false) : s.sign cur data = .err "key-ops" := gate_err h
theorem verify_gated (v : VerifierImpl) (cur : Option (List Int)) (data sig : Bytes)
    (h : opsEmptyOrHas cur opVerify = false) : v.verify cur data sig = .err "key-ops" := gate_err h
theorem ecdh_gated (k remote : Key) (cur : Option (List Int))
    (h : opsEmptyOrHas cur opDeriveKey = false ∧ opsEmptyOrHas cur opDeriveBits = false) :
    (ecdhDerive k cur remote).isOk = false :=
  Bool.eq_false_iff.mpr fun hok => (ecdhDerive_ok hok).ops h

/-- **narrowing after construction takes effect** (MAC creation as the instance): `m` is any implementation, however it
    was made; `some l` is the key_ops its key holds at call time -/
theorem narrowing_takes_effect (m : SymImpl) (l : List Int) (hne : l ≠ []) (hop : opMacCreate ∉ l) (data : Bytes) :
    m.macCreate (some l) data = .err "key-ops" := by
  apply macCreate_gated
  exact (gate_false_iff l opMacCreate).mpr ⟨hne, hop⟩

/-- the entry under label 4 exists because `ops k` answered, and it is the one the label loop fails on -/
theorem labelsOk_foreign_op {f : CheckKeyFacts} {k : Key} {l : List Int} {o : Int}
    (hf : f.hasOpsCase = true) (hnp : Iana.KeyParameterKeyOps ∉ f.plainLabels)
    (hl : ops k = some l) (ho : o ∈ l) (hno : o ∉ f.ops) : labelsOk f k = false := by
  cases hv : k.lookup (lbl Iana.KeyParameterKeyOps) with
  | none => simp [ops, hv] at hl
  | some v =>
    unfold labelsOk
    rw [List.all_eq_false]
    refine ⟨_, mem_of_lookup hv, ?_⟩
    have hne : (Iana.KeyParameterKeyOps == Iana.KeyParameterAlg) = false := by decide
    -- the loop body at label 4: no plain label, not the alg case, the key_ops case with `hl`; leaves `¬ l.all (· ∈ f.ops)`
    simp only [lbl, List.contains_eq_mem, hnp, decide_false, hne, Bool.and_false, hf, hl, Bool.true_and, beq_self_eq_true,
      if_true, if_false, Bool.false_eq_true]
    rw [List.all_eq_true]
    intro hall
    exact hno (by simpa using hall o ho)

/-- **the `CheckKey` of a symmetric family refuses a key_ops list that names an operation outside the family**; the label
    loop of every family does (`labelsOk_foreign_op`; `hp` and `hna` are not used) -/
theorem foreign_op_refused_at_construction (f : CheckKeyFacts) (ks : Int → Nat) (k : Key) (l : List Int) (o : Int)
    (hf : f.hasOpsCase = true) (hl : ops k = some l) (ho : o ∈ l) (hno : o ∉ f.ops)
    (hp : (lbl Iana.KeyParameterKeyOps, (k.lookup (lbl Iana.KeyParameterKeyOps)).getD .nil) ∈ k)
    (hnp : Iana.KeyParameterKeyOps ∉ f.plainLabels) (hna : f.hasAlgCase = true → Iana.KeyParameterKeyOps ≠ Iana.KeyParameterAlg) :
    checkSymmetric f ks k = false := by
  simp [checkSymmetric, labelsOk_foreign_op hf hnp hl ho hno]

/-- about `copyCommon` and any `newOps`: where the key copied from has a key_ops entry, the copy's entry is `newOps`.
    The `ToPublicKey`s of the model call it with `[verify]` (signature keys) and `[]` (ECDH): that is how **public keys
    derived from private keys carry only public-side operations** -/
theorem derived_public_ops (k base : Key) (newOps : List Int) (h : k.has (lbl Iana.KeyParameterKeyOps) = true) :
    (copyCommon k base newOps).lookup (lbl Iana.KeyParameterKeyOps) = some (.ops newOps) := by
  unfold copyCommon
  simp only [h, if_true]
  rw [lookup_set, if_pos rfl]

/-- an HMAC key whose key_ops is the text "sign" -/
def malformedOpsKey : Key :=
  [(lbl 1, .int .int 4), (lbl 3, .int .int 5), (lbl (-1), .bytes (List.replicate 32 1)), (lbl 4, .str [0x73, 0x69, 0x67, 0x6e])]

theorem malformed_ops_unusable_cex :
    malformedOpsKey.has (lbl Iana.KeyParameterKeyOps) = true ∧ ops malformedOpsKey = none ∧
    checkHmac malformedOpsKey = true ∧ ∀ op, opsEmptyOrHas (ops malformedOpsKey) op = true := by
  have h : ops malformedOpsKey = none := by decide +kernel
  exact ⟨by decide +kernel, h, by decide +kernel, fun op => by rw [h]; rfl⟩

theorem interpretable_ops_enforced_partial (k : Key) (l : List Int) (h : ops k = some l) (op : Int)
    (hne : l ≠ []) (hop : op ∉ l) : opsEmptyOrHas (ops k) op = false := by
  rw [h]
  exact (gate_false_iff l op).mpr ⟨hne, hop⟩

/-- the representations `key.Ops` and `[]int` give the same list (`[]any` of integers of any kind:
    `C17.ops_kind_insensitive` and the examples below) -/
theorem ops_representation_independent (rest : Key) (xs : List Int)
    (hr : rest.lookup (lbl Iana.KeyParameterKeyOps) = none) :
    ops ((lbl Iana.KeyParameterKeyOps, .ops xs) :: rest) = some xs ∧
    ops ((lbl Iana.KeyParameterKeyOps, .ints xs) :: rest) = some xs := by
  unfold ops
  rw [lookup_cons_self, lookup_cons_self]
  exact ⟨rfl, rfl⟩

example : toIntList [.int .u64 9, .int .i8 10, .int .int 9] = some [9, 10, 9] := by decide +kernel
example : toIntList [.int .u64 9, .str [0x78]] = none := by decide +kernel
example : toIntList [.int .u64 9, .nil] = none := by decide +kernel

/-- **the operation numbers are the ones of RFC 9052 Table 5** (regenerated from `iana/operation.go`): the gates compare
    against these constants, and keys from other implementations carry the numbers — a transposed pair (3 ↔ 4, 9 ↔ 10)
    would keep the library consistent with itself and invert the restriction for everybody else -/
theorem key_operation_numbers_are_rfc9052 :
    Iana.KeyOperationSign = 1 ∧ Iana.KeyOperationVerify = 2 ∧ Iana.KeyOperationEncrypt = 3 ∧ Iana.KeyOperationDecrypt = 4 ∧
    Iana.KeyOperationWrapKey = 5 ∧ Iana.KeyOperationUnwrapKey = 6 ∧ Iana.KeyOperationDeriveKey = 7 ∧
    Iana.KeyOperationDeriveBits = 8 ∧ Iana.KeyOperationMacCreate = 9 ∧ Iana.KeyOperationMacVerify = 10 := by decide +kernel

end Cose.Props.C16
