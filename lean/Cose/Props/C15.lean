import Cose.Key.EcLemmas
/-!
# C15 — derived public keys leak nothing; all encodings of a key are equivalent

Theorems on the key-conversion model (`ed25519ToPublic`, `ecdsaToPublic`, `ecdsaPrivate`, `newVerifier`):
a derived public key and the key a verifier holds have no private parameter (`ed25519_public_has_no_private`,
`ecdsa_public_has_no_private`, `verifier_key_is_public`); a private key whose embedded x is another integer than the
derived one is refused (`mismatched_embedded_public_refused`).  That embedded coordinates are compared **as integers**
and emitted ones written at the curve's byte length (RFC 9053 §7.1.1) is in the model's definitions;
`padded_coordinate_accepted` and `emitted_coordinate_length` are the facts about `os2ip` and `fixedLen` by which a
zero-padded form compares equal and an emitted one has that length.  That derived keys *denote the matching public key*
is curve arithmetic: established against the Lean reference in the run (`sig.topublic`, `sig.verifierkey`,
`ecdh.topublic`, `*.compress`, with one third of the keys having leading-zero coordinates).
-/
namespace Cose.Props.C15
open Cose.Key Cose.Go Cose.Gen Cose.Crypto

theorem copyCommon_has {k base : Key} {newOps : List Int} {l : Label}
    (h1 : lbl Iana.KeyParameterKid ≠ l) (h2 : lbl Iana.KeyParameterAlg ≠ l) (h3 : lbl Iana.KeyParameterKeyOps ≠ l) :
    (copyCommon k base newOps).has l = base.has l := by
  unfold copyCommon
  simp only []
  split <;> split <;> split <;>
    simp only [has_set, beq_false_of_ne h1, beq_false_of_ne h2, beq_false_of_ne h3, Bool.false_or]

theorem ed25519_public_has_no_private (k pk : Key) (h : ed25519ToPublic k = .ok pk) :
    pk.has (lbl Iana.OKPKeyParameterD) = false := by
  obtain ⟨-, h⟩ := Res.of_guard_ok h
  split at h
  · rename_i hd
    cases h
    simpa using hd
  · obtain ⟨-, h⟩ := Res.of_guard_ok h
    cases h
    rw [has_set, copyCommon_has (by decide) (by decide) (by decide)]
    decide

theorem ecdsa_public_has_no_private (k pk : Key) (h : ecdsaToPublic k = .ok pk) :
    pk.has (lbl Iana.EC2KeyParameterD) = false := by
  obtain ⟨-, h⟩ := Res.of_guard_ok h
  split at h
  · rename_i hd
    cases h
    simpa using hd
  split at h
  · cases h
  · obtain ⟨-, h⟩ := Res.of_guard_ok h
    cases h
    rw [has_set, has_set, copyCommon_has (by decide) (by decide) (by decide), has_cons, has_cons]
    decide

theorem newVerifier_ok {k : Key} {v : VerifierImpl} (h : newVerifier (some k) = .ok v) :
    ed25519ToPublic k = .ok v.key ∨ ecdsaToPublic k = .ok v.key := by
  unfold newVerifier at h
  simp only at h
  split at h
  · cases h
  split at h
  · split at h <;> cases h
    exact .inl ‹_›
  · split at h
    · split at h <;> cases h
      exact .inr ‹_›
    all_goals cases h
  · cases h

theorem verifier_key_is_public (k : Key) (v : VerifierImpl) (h : newVerifier (some k) = .ok v) :
    v.key.has (lbl Iana.EC2KeyParameterD) = false :=
  -- the Ed25519 half speaks of `OKPKeyParameterD`: the two labels are the same number, −4
  (newVerifier_ok h).elim (ed25519_public_has_no_private k _) (ecdsa_public_has_no_private k _)

/-- about `fixedLen` alone; `ecdsaToPublic` and `ecdhToPublic` write each coordinate as `fixedLen c.byteLen _`
    (RFC 9053 §7.1.1) -/
theorem emitted_coordinate_length (c : Curve) (v : Nat) : (fixedLen c.byteLen v).length = c.byteLen :=
  fixedLen_length _ _

theorem curve_byte_lengths : p256.byteLen = 32 ∧ p384.byteLen = 48 ∧ p521.byteLen = 66 := by decide

/-- about `os2ip` alone; it is through `os2ip` that `ecdsaToPublic` and `ecdsaPrivate` compare an embedded coordinate with
    the derived one -/
theorem padded_coordinate_accepted (x : Bytes) (n px : Nat) (h : os2ip x = px) :
    os2ip (List.replicate n 0 ++ x) = px := by rw [os2ip_replicate_zero, h]

theorem mismatched_embedded_public_refused (k : Key) (x : Bytes) (hx : getB k Iana.EC2KeyParameterX = some x)
    (hd : k.has (lbl Iana.EC2KeyParameterD) = true) (hc : checkEcdsa k = true) (ci : CurveInfo)
    (hcv : ecdsaCurve (alg k) = some ci)
    (hne : os2ip x ≠ (basePoint ci.curve (os2ip ((getB k Iana.EC2KeyParameterD).getD []))).1) :
    (ecdsaPrivate k).isOk = false := by
  unfold ecdsaPrivate
  simp only [hd, hc, hcv, hx, Bool.not_true, Bool.false_eq_true, if_false, bne_iff_ne.mpr hne, Bool.true_or, if_true]
  rfl

end Cose.Props.C15
