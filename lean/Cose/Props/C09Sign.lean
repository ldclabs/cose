import Cose.Props.C09
import Cose.Props.C01Sign
/-!
# C09 — a decoded COSE_Sign survives re-encoding, signature by signature

`sign_reencode_fixpoint`: take whatever wire struct the COSE_Sign decoder retained — from a library encoding or from a
peer's, with non-canonical or oddly filled per-signature protected buckets — encode it and decode the result: the body
protected bytes, the payload and **the whole list of signature objects** (protected map, protected bytes as received,
unprotected map, signature) come back unchanged, for any number of signatures.  Hence the verdict of `Verify` is the
same before and after (`sign_reencoded_same_verdict`).  What is asked of each signature object (`SigStable`) is what
holds of a decoded one: it carries the received bucket bytes, those bytes decode to its protected map, and its
unprotected map is a fixed point of encode ∘ decode.
-/
namespace Cose.Props.C09Sign
open Cose.Msg Cose.Go Cose.Cbor Cose.Gen Cose.Props.C01 Cose.Props.C01Sign

/-- a signature object as the decoder leaves it (`depth u ≤ 4`: any bound that leaves the message below `maxNesting`
    would do) -/
structure SigStable (s : SigObj) (c : Cbor) : Prop where
  raw : ∃ raw u sig, s.protRaw = some raw ∧ raw.length < two64 ∧ hdrFromBytes (some raw) = .ok s.prot ∧
    hdrCbor s.unprot = some u ∧ WF u ∧ depth u ≤ 4 ∧ hdrField u = .ok s.unprot ∧
    (∀ x, s.signature = some x → x.length < two64) ∧ sig = bytesCbor s.signature ∧ c = .arr [.bstr raw, u, sig]

theorem stable_list {sigs : List SigObj} {cs : List Cbor} (h : All2 SigStable sigs cs) :
    sigs.mapM sigCbor = some cs ∧ WFList cs ∧ depthList cs ≤ 5 ∧ decSeq sigField cs = .ok sigs := by
  induction h with
  | nil => exact ⟨rfl, trivial, by simp [depthList], rfl⟩
  | @cons s c rest csr hs _ ih =>
    obtain ⟨h1, h2, h3, h4⟩ := ih
    -- the received bucket bytes `raw` (bounded, decoding to `s.prot`), the unprotected item `u` (well-formed, shallow, decoding
    -- to `s.unprot`), the signature member (bounded), and the item `c` they make
    obtain ⟨raw, u, sig, hraw, hrl, hpm, hu, huw, hud, huf, hsl, hsig, hc⟩ := hs.raw
    subst hc hsig
    have hcb : sigCbor s = some (.arr [.bstr raw, u, bytesCbor s.signature]) :=
      Cose.Props.C09.signature_reencodes_raw_bucket s raw hraw u hu
    refine ⟨?_, ⟨⟨by simp [maxElems], hrl, huw, wf_bytesCbor _ hsl, trivial⟩, h2⟩, ?_, ?_⟩
    · simp only [List.mapM_cons, hcb, h1]; rfl
    · simp only [depthList, depth, depth_bytesCbor]; omega
    · have : sigField (.arr [.bstr raw, u, bytesCbor s.signature]) = .ok s := by
        simp only [sigField, untag, bytesField, bytesField_bytesCbor, huf, hpm]
        rw [← hraw]
      simp only [decSeq, this, h4]

/-- **decode ∘ encode is the identity on a decoded COSE_Sign**: body protected bytes, payload and every signature object -/
theorem sign_reencode_fixpoint (w : Wire) (sigs : List SigObj) (cs : List Cbor) (hs : w.sigs = some sigs)
    (hst : All2 SigStable sigs cs) (hn : sigs.length ≤ maxElems)
    (u : Cbor) (hu : hdrCbor w.unprot = some u) (huw : WF u) (hud : depth u + 2 < maxNesting)
    (uh : Hdr) (huf : hdrField u = .ok uh)
    (hp : ∀ x, w.prot = some x → x.length < two64) (hy : ∀ x, w.payload = some x → x.length < two64)
    (pm : CMap) (hpm : hdrFromBytes w.prot = .ok pm) :
    ∃ bytes m2 w2, marshal .sign w = some bytes ∧ unmarshal .sign .raw bytes = .ok m2 ∧ m2.mm = some w2 ∧
      w2.prot = w.prot ∧ w2.payload = w.payload ∧ w2.sigs = some sigs ∧ m2.prot = some pm := by
  obtain ⟨hcs, hwf, hdepth, hdec⟩ := stable_list hst
  obtain ⟨bytes, hmar, hun⟩ := sign_decode .raw w ⟨⟨u, hu, rfl⟩, huw, hud, huf⟩ hp hy hs hcs
    ⟨hst.length_eq ▸ hn, hwf⟩ (by unfold maxNesting; omega) hdec hpm (payloadFromWire_raw _)
  exact ⟨_, _, _, hmar, hun, rfl, rfl, rfl, rfl, rfl⟩

/-- `SignMessage.Verify` looks at the retained wire struct only through the body protected bytes, the payload and the
    signature objects: with those preserved the verdict is preserved -/
theorem sign_reencoded_same_verdict (m m2 : Msg) (w w2 : Wire) (hm : m.mm = some w) (hm2 : m2.mm = some w2)
    (h1 : w2.prot = w.prot) (h2 : w2.payload = w.payload) (h3 : w2.sigs = w.sigs)
    (vs : List Verifier) (ext : Option Bytes) :
    verifySign m2 vs ext = verifySign m vs ext := by
  simp only [verifySign, hm, hm2, h3, verifySign_go_congr (fun _ => rfl) h1 h2]

/-! ### non-vacuity: a signature object decoded from a peer's non-canonical bucket `a1 01 38 06` ({1: -7}, long head) -/

def foreignSig : SigObj := ⟨[(.int 1, .int .i64 (-7))], some [0xa1, 0x01, 0x38, 0x06], some [(.int 4, .bytes [1])], some [9, 9]⟩

theorem foreignSig_stable :
    SigStable foreignSig (.arr [.bstr [0xa1, 0x01, 0x38, 0x06], .map [(.uint 4, .bstr [1])], .bstr [9, 9]]) where
  raw := by
    refine ⟨[0xa1, 0x01, 0x38, 0x06], .map [(.uint 4, .bstr [1])], .bstr [9, 9], rfl, by decide, by with_unfolding_all rfl, by with_unfolding_all rfl,
      (kid_map_wf [1] (by decide)).1, by simp [depth, depthPairs], by with_unfolding_all rfl, ?_, rfl, rfl⟩
    intro x h; cases h; decide

example : All2 SigStable [foreignSig, foreignSig]
    [.arr [.bstr [0xa1, 0x01, 0x38, 0x06], .map [(.uint 4, .bstr [1])], .bstr [9, 9]],
     .arr [.bstr [0xa1, 0x01, 0x38, 0x06], .map [(.uint 4, .bstr [1])], .bstr [9, 9]]] := .cons foreignSig_stable (.cons foreignSig_stable .nil)

end Cose.Props.C09Sign
