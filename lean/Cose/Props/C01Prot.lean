import Cose.Props.C01Enc
/-!
# C01 — COSE_Sign1 / COSE_Mac0 round trip with a caller-supplied protected header map

`Props/C01.lean` proves the round trip for the default protected bucket `{1: alg}`.  Here the caller hands over its own
protected map — any label map with pairwise distinct in-range labels and scalar / list values, in whatever order a Go
map presents its entries, that does not contradict the key's algorithm:

* `auth4_roundtrip_prot`, `enc0_roundtrip_prot` — production succeeded, so the map does not contradict the key
  (`fillProtected_some_ok`); its octets decode to a map that answers every look-up like the original, values in their
  decoded form, so the algorithm check sees the same algorithm on both sides (`Msg.supplied_bucket`); the rest is the
  general round trip (`C01.auth4_roundtrip_core`, `C01.decrypt_produced`);
* `auth4_roundtrip_named` — payloads of a named byte-slice type, which travel CBOR-encoded.
-/
namespace Cose.Props.C01Prot
open Cose.Msg Cose.Go Cose.Cbor Cose.Gen Cose.Props.C01

/-- **COSE_Sign1 / COSE_Mac0 round trip, any caller-supplied protected map**: for every payload, external data, key
    and every non-empty protected map with distinct in-range labels and scalar / list values, in any entry order,
    which `WithSign` / `Compute` accepts (it does not name another algorithm than the key's) — the produced message is
    decoded back with the protected bytes that were authenticated, a protected map that answers every look-up like
    the original, the same payload and signature / tag, and verifies under a key of the signer's algorithm. -/
theorem auth4_roundtrip_prot (k : Kind) (hk : k = .sign1 ∨ k = .mac0) (pv pv' : PVal) (mode : PMode)
    (payload ext : Option Bytes) (prot : CMap) (unprot : Hdr)
    (key vkey : KeyView) (auth : Bytes → Res Bytes) (check : Bytes → Bytes → Res Unit)
    (hcorr : SigCorrect auth check) (hvk : vkey.alg = key.alg)
    (hne : prot ≠ []) (hok : ∀ kv ∈ prot, EntryOk kv) (hnd : (prot.map (·.1)).Nodup) (hlen : prot.length ≤ maxElems)
    (hpbl : ∀ pb, encodeCMap prot = some pb → pb.length < two64)
    (hpw : payloadToWire pv = .ok payload) (hpf : payloadFromWire mode payload (zeroPayload mode) = .ok pv')
    (m1 : Msg) (h : produceAuth ⟨k, some prot, unprot, pv, none⟩ key auth ext = .ok m1)
    (w : Wire) (hw : m1.mm = some w) (u : Cbor) (hu : hdrCbor w.unprot = some u)
    (u' : Cbor) (heq : encode u' = encode u) (huw : WF u')
    (hud : depth u' + 2 < maxNesting) (uh : Hdr) (huf : hdrField u' = .ok uh)
    (hpl : ∀ x, payload = some x → x.length < two64) (hsl : ∀ x, w.auth = some x → x.length < two64) :
    ∃ bytes m2 w2 pm, marshal k w = some bytes ∧ unmarshal k mode bytes = .ok m2 ∧ m2.mm = some w2 ∧
      w2.prot = w.prot ∧ w2.payload = payload ∧ w2.auth = w.auth ∧
      m2.payload = pv' ∧ m2.prot = some pm ∧ (∀ l, pm.lookup l = (prot.lookup l).map normV) ∧
      verifyAuth m2 vkey check ext = .ok () ∧ m2.unprot = uh := by
  obtain ⟨_, pb', _, hfp, hpb', hyw, hwe⟩ := produceAuth_wire h hw
  -- production succeeded, so the supplied map does not contradict the key
  obtain ⟨hmis, rfl⟩ := fillProtected_some_ok hfp
  obtain ⟨pb, pm, henc, hpb, hpm, hlook, hmm⟩ := supplied_bucket prot vkey.alg hne hok hnd hlen
  obtain rfl : pb = pb' := Res.ok.inj (hpb.symm.trans hpb')
  obtain rfl : payload = w.payload := Res.ok.inj (hpw.symm.trans hyw)
  have hwp : w.prot = some pb := by rw [hwe]
  obtain ⟨bytes, h1, h2, h3⟩ := auth4_roundtrip_core hk mode hcorr h hw (fun x hx => by cases hwp.symm.trans hx; exact hpbl pb henc)
    (hwp ▸ hpm) (by rw [hmm, hvk]; exact hmis) hpf ⟨⟨u, hu, heq⟩, huw, hud, huf⟩ hpl hsl
  exact ⟨bytes, _, _, pm, h1, h2, rfl, rfl, rfl, rfl, rfl, rfl, hlook, h3, rfl⟩

/-- **COSE_Encrypt0 round trip with a caller-supplied protected map**: every payload, external data, key, nonce choice,
    unprotected map as in `enc0_roundtrip`, and any non-empty protected map with distinct in-range labels and scalar /
    list values, in any entry order, that `Encrypt` accepts: the decoder returns a protected map answering every
    look-up like the original, the AAD is built over the very protected bytes that were emitted, and `Decrypt` gives
    back the payload. -/
theorem enc0_roundtrip_prot (payload ext : Option Bytes) (prot : CMap) (unprot : Hdr) (e : Encryptor) (rnd : Bytes)
    (hcorr : AeadCorrect e) (hrnd : rnd ≠ [])
    (hne : prot ≠ []) (hokp : ∀ kv ∈ prot, EntryOk kv) (hndp : (prot.map (·.1)).Nodup) (hlenp : prot.length ≤ maxElems)
    (hpbl : ∀ pb, encodeCMap prot = some pb → pb.length < two64)
    (m1 : Msg) (h : produceEnc ⟨.encrypt0, some prot, unprot, .bytes payload, none⟩ e ext rnd = .ok m1)
    (w : Wire) (hw : m1.mm = some w) (fm : CMap) (hfm : w.unprot = some fm)
    (hok : ∀ kv ∈ fm, EntryOk kv) (hnd : (fm.map (·.1)).Nodup) (hlen : fm.length ≤ maxElems)
    (hiv : fm.lookup (Msg.lbl Iana.HeaderParameterIV) ≠ some .bnil)
    (hpiv : fm.lookup (Msg.lbl Iana.HeaderParameterPartialIV) ≠ some .bnil)
    (hcl : ∀ x, w.payload = some x → x.length < two64) :
    ∃ bytes m2 pm, marshal .encrypt0 w = some bytes ∧ unmarshal .encrypt0 .raw bytes = .ok m2 ∧
      m2.prot = some pm ∧ (∀ l, pm.lookup l = (prot.lookup l).map normV) ∧
      decryptEnc m2 .raw e ext = .ok (.bytes (nonEmpty payload)) := by
  obtain ⟨_, pb', _, _, _, _, ct, hfp, hpb', -, -, -, -, hwe⟩ := produceEnc_wire hrnd h hw
  obtain ⟨hmis, rfl⟩ := fillProtected_some_ok hfp
  obtain ⟨pb, pm, hencp, hpb, hpm, hlookp, hmm⟩ := supplied_bucket prot e.key.alg hne hokp hndp hlenp
  obtain rfl : pb = pb' := Res.ok.inj (hpb.symm.trans hpb')
  subst hwe
  cases hfm
  obtain ⟨u', uh, hu, hlook⟩ := hdr_any_order fm hok hnd hlen
  obtain ⟨bytes, hmar, hun⟩ := enc0_decode .raw _ hu (fun x hx => by cases hx; exact hpbl pb hencp) hcl hpm
  exact ⟨bytes, _, pm, hmar, hun, rfl, hlookp,
    decrypt_produced hcorr hrnd rfl h hw rfl hiv hpiv (hmm.trans hmis) hlook rfl rfl⟩

/-! ## named byte-slice payloads (`key.ByteStr`, `type Blob []byte`)

A payload whose Go type is a *named* byte-slice type is not taken as the raw payload octets: it is CBOR-encoded (a byte
string; nil is `null`) on the way out and CBOR-decoded on the way in.  Both directions must agree, or the value read
back is not the value signed. -/

theorem named_payload_wire (b : Option Bytes) (hb : ∀ x, b = some x → x.length + 9 < two64) :
    ∃ y, payloadToWire (.named b) = .ok (some y) ∧ payloadFromWire .named (some y) (zeroPayload .named) = .ok (.named b) ∧
      y.length < two64 := by
  cases b with
  | none => exact ⟨encode Cbor.null, rfl, by with_unfolding_all rfl, by decide⟩
  | some x =>
    have hx := hb x rfl
    have hh := (head_length_bounds 2 x.length).2
    refine ⟨encode (.bstr x), rfl, ?_, by simp only [encode, List.length_append]; omega⟩
    have hdec : decodeAll (encode (.bstr x)) = some (.bstr x) :=
      decodeAll_encode (.bstr x) (by simp only [WF]; omega) (by simp [depth])
    have hne := encode_ne_nil (.bstr x)
    cases he : encode (.bstr x) with
    | nil => exact absurd he hne
    | cons a r =>
      rw [he] at hdec
      simp only [payloadFromWire, hdec, Option.map_some, untag]

/-- **COSE_Sign1 / COSE_Mac0 round trip with a named byte-slice payload**, nil included: the payload member on the
    wire is the CBOR encoding of the octets (what is signed), and the decoder in the same mode hands back exactly the
    octets (nil for nil) and the message verifies (`hb`: 9 octets is the longest head the CBOR encoding of the octets can
    add) -/
theorem auth4_roundtrip_named (k : Kind) (hk : k = .sign1 ∨ k = .mac0) (b ext : Option Bytes) (unprot : Hdr)
    (key vkey : KeyView) (auth : Bytes → Res Bytes) (check : Bytes → Bytes → Res Unit)
    (hcorr : SigCorrect auth check) (hvk : vkey.alg = key.alg) (ha : key.alg ≠ 0)
    (har : -2147483648 ≤ key.alg ∧ key.alg ≤ 2147483647)
    (hb : ∀ x, b = some x → x.length + 9 < two64)
    (m1 : Msg) (h : produceAuth ⟨k, none, unprot, .named b, none⟩ key auth ext = .ok m1)
    (w : Wire) (hw : m1.mm = some w)
    (hok : ∀ kv ∈ fillUnprotected unprot key, EntryOk kv)
    (hnd : ((fillUnprotected unprot key).map (·.1)).Nodup)
    (hlen : (fillUnprotected unprot key).length ≤ maxElems)
    (hsl : ∀ x, w.auth = some x → x.length < two64) :
    ∃ bytes m2 w2 uh, marshal k w = some bytes ∧ unmarshal k .named bytes = .ok m2 ∧ m2.mm = some w2 ∧
      w2.prot = w.prot ∧ w2.payload = w.payload ∧ w2.auth = w.auth ∧
      m2.payload = .named b ∧ verifyAuth m2 vkey check ext = .ok () ∧ m2.unprot = some uh ∧
      ∀ l, uh.lookup l = ((fillUnprotected unprot key).lookup l).map normV := by
  obtain ⟨y, hpw, hpf, hyl⟩ := named_payload_wire b hb
  obtain ⟨bytes, m2, w2, uh, h1, h2, h3, h4, h5, h6, h7, h8, h9, h10⟩ :=
    auth4_roundtrip_any_order_gen hk hcorr hvk har hpw hpf h hw hok hnd hlen (fun x hx => by cases hx; exact hyl) hsl
  obtain ⟨_, _, _, -, -, hyw, -⟩ := produceAuth_wire h hw
  have hwy : w.payload = some y := (Res.ok.inj (hpw.symm.trans hyw)).symm
  exact ⟨bytes, m2, w2, uh, h1, h2, h3, h4, by rw [h5, hwy], h6, h7, h8, h9, h10⟩

/-! ### non-vacuity: a protected map a caller would supply — `{1: ES256, 3: "application/cwt"-like content type 61, 4: h'0102'}`,
    handed over in non-canonical order — meets every hypothesis on the map, and does not contradict an ES256 key -/

def sampleProt : CMap := [(Msg.lbl 4, .bytes [1, 2]), (Msg.lbl 1, .int .int (-7)), (Msg.lbl 3, .int .int 61)]

example : sampleProt ≠ [] ∧ (∀ kv ∈ sampleProt, EntryOk kv) ∧ (sampleProt.map (·.1)).Nodup ∧
    sampleProt.length ≤ maxElems ∧ algMismatch sampleProt (-7) = false ∧ algMismatch sampleProt (-35) = true := by
  refine ⟨by decide, ?_, by decide, by decide, by decide, by decide⟩
  intro kv h
  simp only [sampleProt, List.mem_cons, List.mem_nil_iff, or_false] at h
  rcases h with rfl | rfl | rfl
  · exact ⟨by decide, .scalar _ (.bytes _ (by decide))⟩
  · exact ⟨by decide, .scalar _ (.int _ _ (by decide) (by intro h; cases h))⟩
  · exact ⟨by decide, .scalar _ (.int _ _ (by decide) (by intro h; cases h))⟩

end Cose.Props.C01Prot
