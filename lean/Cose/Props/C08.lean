import Cose.Cbor.Corollaries
import Cose.Go.Labels
import Cose.Gen.Layouts
/-!
# C08 — Deterministic CBOR out, strict CBOR in

Model: `Cose.Cbor.encode` (what the library's encoder emits: shortest heads, definite lengths, map entries
sorted bytewise by encoded key) and `Cose.Cbor.decode` (the language fxamacker accepts under the library's
options).  Tie: the encoder/decoder options are regenerated from `key/cbor.go` (`options_are_strict`);
`cbor.enc` is a spec op (library output = `encode`), `cbor.dec` / `map.unmarshal` mirror ops over a
grammar-aware malformed stream.
-/
namespace Cose.Props.C08
open Cose.Cbor Cose.Go

/-- the encoder sorts bytewise and forbids indefinite lengths; the decoder enforces duplicate-key detection
    and forbids indefinite lengths — the options literals of `key/cbor.go`, regenerated -/
theorem options_are_strict :
    Cose.Gen.Layouts.cborOptions =
      [("decOpts", [("DupMapKey", "cbor.DupMapKeyEnforcedAPF"), ("IndefLength", "cbor.IndefLengthForbidden")]),
       ("encOpts", [("IndefLength", "cbor.IndefLengthForbidden"), ("Sort", "cbor.SortBytewiseLexical")])] := by
  decide +kernel

/-- **equal integers become the same CBOR item, hence the same bytes, whatever the Go integer type** -/
theorem encode_kind_independent (k k' : IntKind) (v : Int) : toCbor (.int k v) = toCbor (.int k' v) := rfl

/-- **the encoding of a map does not depend on the Go map iteration order**; `nd`: among entries with the same encoded
    key the sort, being stable, keeps the order given -/
theorem encode_order_independent {k1 k2 : List (Cbor × Cbor)} (h : k1.Perm k2)
    (nd : ((encodePairs k1).map (·.1)).Nodup) : encode (.map k1) = encode (.map k2) :=
  encode_map_perm h nd

/-- **shortest-form heads** (integers, lengths, tags) -/
theorem heads_shortest (mt n : Nat) :
    (head mt n).length =
      if n < 24 then 1 else if n < 256 then 2 else if n < 65536 then 3 else if n < 4294967296 then 5 else 9 :=
  head_shortest mt n

/-- **map keys leave the encoder in RFC 8949 bytewise lexicographic order** -/
theorem map_keys_sorted (kvs : List (Cbor × Cbor)) :
    ((encodePairs kvs).mergeSort entryLe).Pairwise (fun a b => bytesLe a.1 b.1 = true) :=
  encode_map_entries_sorted kvs

/-- **what the encoder writes, the strict decoder reads back, whole**, for a `WF` value nested no deeper than the
    decoder's limit -/
theorem encoded_is_accepted (v : Cbor) (hw : WF v) (hd : depth v ≤ maxNesting) : decodeAll (encode v) = some v :=
  decodeAll_encode v hw hd

/-- **distinct values have distinct encodings**, among `WF` values (so that no two authenticated structures collide) -/
theorem encode_injective' {v w : Cbor} (hv : WF v) (hw : WF w) (h : encode v = encode w) : v = w :=
  encode_inj hv hw h

/-- **indefinite-length items are rejected** (additional information 31 on any major type), as are the
    reserved values 28–30: an input whose first octet carries one of them does not decode, with whatever fuel and depth -/
theorem decode_rejects_indefinite (b : UInt8) (r : Bytes) (f d : Nat) (h : b.toNat % 32 ≥ 28) :
    decode f d (b :: r) = none := by
  cases f with
  | zero => simp [decode]
  | succ f => simp [decode, decHead_reserved h]

/-- **a first element that is rejected makes the element list rejected** (one step of the propagation upwards) -/
theorem decodeList_rejects_of_head (f d k : Nat) (bs : Bytes) (h : decode f d bs = none) :
    decodeList (f + 1) d (k + 1) bs = none := by
  simp [decodeList, h]

/-- **duplicate map keys are rejected**: a map head followed by the encodings of entries two of which have the same key
    does not decode (one map, keys in shortest form; a key repeated as `01` and `1801` is the `example` below) -/
theorem dup_keys_rejected (kvs : List (Cbor × Cbor)) (hw : WFPairs kvs) (hlen : kvs.length < two64)
    (hdup : nodupKeys kvs = false) (f d : Nat) (r : Bytes) (hf : sizePairs kvs < f) (hd : depthPairs kvs < d) :
    decode f d (head 5 kvs.length ++ flattenPairs (encodePairs kvs) ++ r) = none :=
  decode_rejects_dup_keys kvs hw hlen hdup f d r hf hd

example : nodupKeys [(.uint 1, .uint 0), (.uint 1, .uint 5)] = false := by decide +kernel
/-- `a2 01 00 18 01 05`: the second key is the non-shortest encoding of 1 -/
example : decodeAll [0xa2, 0x01, 0x00, 0x18, 0x01, 0x05] = none := by decide +kernel
#guard (decodeAll [0xa2, 0x01, 0x00, 0x02, 0x05]).map encode == some [0xa2, 0x01, 0x00, 0x02, 0x05]

/-- **trailing bytes are rejected**: `decodeAll` fails on the encoding of a `WF` value with anything after it -/
theorem trailing_rejected (v : Cbor) (hw : WF v) (hd : depth v ≤ maxNesting) (b : UInt8) (r : Bytes) :
    decodeAll (encode v ++ b :: r) = none :=
  decodeAll_encode_append v hw hd (b :: r)

/-- **labels of a header / key / claim map must be 32-bit-range integers or text** (`checkKey`): here an integer out of
    range, in `label_wrong_type_rejected` a value of another type.  `hwf` excludes a negative number of an unsigned kind,
    which no Go value is. -/
theorem label_out_of_range_rejected (k : IntKind) (v : Int) (hwf : k.signed = false → 0 ≤ v)
    (h : v < -2147483648 ∨ v > 2147483647) : ¬ (checkKey (.int k v)).isOk := by
  have hu : k.signed = false → ¬ v ≤ 2147483647 := fun hs => by have := hwf hs; omega
  unfold checkKey minInt32 maxInt32
  cases k
  case int | i64 => simp only; rw [if_neg (by omega)]; exact Bool.false_ne_true
  case u | u64 => simp only; rw [if_neg (hu rfl)]; exact Bool.false_ne_true
  -- the other kinds are no label at all
  all_goals exact Bool.false_ne_true

theorem label_wrong_type_rejected (v : GoVal) (hi : ∀ k n, v ≠ .int k n) (hs : ∀ s, v ≠ .str s) :
    ¬ (checkKey v).isOk := by
  unfold checkKey
  cases v with
  | int k n => exact absurd rfl (hi k n)
  | str s => exact absurd rfl (hs s)
  | _ => exact Bool.false_ne_true

theorem label_ok_iff_int32 (v : Int) : (checkKey (.int .i64 v)).isOk ↔ (-2147483648 ≤ v ∧ v ≤ 2147483647) := by
  unfold checkKey minInt32 maxInt32
  by_cases h : -2147483648 ≤ v ∧ v ≤ 2147483647 <;> simp [h, Res.isOk]

end Cose.Props.C08
