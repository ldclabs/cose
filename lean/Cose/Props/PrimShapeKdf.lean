import Cose.Gen.Tables
/-! # C13 — regenerated tie: the decisions of the HKDF entry points and the reader (see the header of `PrimShapeMac.lean`) -/
namespace Cose.Props.PrimShapeKdf

def condsOf (f : String) : Option (List String) := (Cose.Gen.Tables.conds.find? (fun r => r.1 == f)).map (·.2)

/-- C13: the three entry points only pass errors on; the limit and the chunking live in `Read` -/
theorem hkdf_functions_conditions :
    condsOf "key_hkdf.HKDF256" = some ["if err != nil"] ∧
    condsOf "key_hkdf.HKDF512" = some ["if err != nil"] ∧
    condsOf "key_hkdf.HKDFAES" = some ["if err != nil", "if err != nil"] ∧
    condsOf "key_hkdf.aesHKDF.Read" = some ["if remains < need", "for len(p) > 0", "if x > 0", "if cap(f.buf) < inputSize"] := by
  decide +kernel

end Cose.Props.PrimShapeKdf
