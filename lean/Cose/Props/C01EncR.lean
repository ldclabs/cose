import Cose.Props.C01Enc
import Cose.Props.C01Mac
/-!
# C01, COSE_Encrypt with recipients — a produced message decrypts to the original payload

`encrypt_roundtrip` is `enc0_roundtrip` for the kind with a recipients array: the same proof, with `C01Mac.encR_decode` for
what the decoder makes of the message (the recipients pass its first-octet dispatch).
-/
namespace Cose.Props.C01
open Cose.Msg Cose.Go Cose.Cbor Cose.Gen Cose.Props.C01Mac

/-- **COSE_Encrypt round trip with recipients**: what `Encrypt` + `MarshalCBOR` produce — with any non-empty list of
    three-member recipients attached — `UnmarshalCBOR` + `Decrypt` turn back into the original payload, for every
    payload, external data, key, unprotected map (scalar / list values, any entry order) and nonce choice; the decoder
    returns one recipient per recipient given. -/
theorem encrypt_roundtrip (payload ext : Option Bytes) (unprot : Hdr) (e : Encryptor) (rnd : Bytes)
    (hcorr : AeadCorrect e) (hrnd : rnd ≠ []) (ha : e.key.alg ≠ 0)
    (har : -2147483648 ≤ e.key.alg ∧ e.key.alg ≤ 2147483647)
    (m1 : Msg) (h : produceEnc ⟨.encrypt, none, unprot, .bytes payload, none⟩ e ext rnd = .ok m1)
    (w : Wire) (hw : m1.mm = some w) (fm : CMap) (hfm : w.unprot = some fm)
    (hok : ∀ kv ∈ fm, EntryOk kv) (hnd : (fm.map (·.1)).Nodup) (hlen : fm.length ≤ maxElems)
    (hiv : fm.lookup (Msg.lbl Iana.HeaderParameterIV) ≠ some .bnil)
    (hpiv : fm.lookup (Msg.lbl Iana.HeaderParameterPartialIV) ≠ some .bnil)
    (hcl : ∀ x, w.payload = some x → x.length < two64)
    (rs : List Recip) (cs : List Cbor) (rs' : List Recip) (hrs : All3 RecipEnc rs cs rs') (hne : rs ≠ [])
    (hrl : rs.length ≤ maxElems) :
    ∃ bytes m2 w2, marshal .encrypt { w with recips := some rs } = some bytes ∧ unmarshal .encrypt .raw bytes = .ok m2 ∧
      m2.mm = some w2 ∧ w2.recips = some rs' ∧ w2.payload = w.payload ∧ w2.prot = w.prot ∧
      decryptEnc m2 .raw e ext = .ok (.bytes (nonEmpty payload)) := by
  obtain ⟨pm, hp, hpm, hmm⟩ := produceEnc_default rfl har h hw
  obtain ⟨u', uh, hu, hlook⟩ := hdr_any_order fm hok hnd hlen
  obtain ⟨bytes, hmar, hun⟩ := encR_decode .raw { w with recips := some rs } (hfm ▸ hu) hp hcl rfl hrs hne hrl hpm
  exact ⟨bytes, _, _, hmar, hun, rfl, rfl, rfl, rfl, decrypt_produced hcorr hrnd rfl h hw hfm hiv hpiv hmm hlook rfl rfl⟩

end Cose.Props.C01
