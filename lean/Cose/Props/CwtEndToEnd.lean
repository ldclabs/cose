import Cose.Props.C01
import Cose.Cwt.View
import Cose.Props.C18 -- what the validator then decides is C18's: its theorems stay in the cone that check C01 builds
/-!
# A CWT end to end (C01 + C18)

`cwt_roundtrip_validates`: a claims map signed as COSE_Sign1 (or MACed as COSE_Mac0) by the library, encoded, decoded in
typed mode, verified — and then validated: the validator decides on the received claims exactly as it decides on the claims
that were signed, for every validator configuration.  This composes `auth4_roundtrip_typed` (message layer over the CBOR round trip of label
maps) with `claimsView_roundtrip` (the validator looks at the claims only through `Has` / `GetUint64` / `GetString`,
which cannot tell a decoded integer or string from the original), and `validateMap_eq_spec` then says what that
decision is in RFC 8392 terms.
-/
namespace Cose.Props.CwtEndToEnd
open Cose.Msg Cose.Go Cose.Cbor Cose.Cwt Cose.Props.C01

theorem cwt_roundtrip_validates (k : Kind) (hk : k = .sign1 ∨ k = .mac0) (claims : CMap) (ext : Option Bytes) (unprot : Hdr)
    (key vkey : KeyView) (auth : Bytes → Res Bytes) (check : Bytes → Bytes → Res Unit)
    (hcorr : SigCorrect auth check) (hvk : vkey.alg = key.alg) (ha : key.alg ≠ 0)
    (har : -2147483648 ≤ key.alg ∧ key.alg ≤ 2147483647)
    (hokp : ∀ kv ∈ claims, EntryOk kv) (hndp : (claims.map (·.1)).Nodup) (hlenp : claims.length ≤ maxElems)
    (m1 : Msg) (h : produceAuth ⟨k, none, unprot, .typed (some claims), none⟩ key auth ext = .ok m1)
    (w : Wire) (hw : m1.mm = some w)
    (hok : ∀ kv ∈ fillUnprotected unprot key, EntryOk kv)
    (hnd : ((fillUnprotected unprot key).map (·.1)).Nodup)
    (hlen : (fillUnprotected unprot key).length ≤ maxElems)
    (hpl : ∀ x, encodeCMap claims = some x → x.length < Cbor.two64) (hsl : ∀ x, w.auth = some x → x.length < Cbor.two64) :
    ∃ bytes m2 received, marshal k w = some bytes ∧ unmarshal k .typed bytes = .ok m2 ∧
      m2.payload = .typed (some received) ∧ verifyAuth m2 vkey check ext = .ok () ∧
      ∀ o : VOpts, validateMap o (claimsView received) = validateMap o (claimsView claims) := by
  -- kept: marshal, unmarshal, payload, its look-ups, verify (`h1`–`h4`, `hlook`); dropped: its length, the decoded header
  obtain ⟨bytes, m2, pm', _, h1, h2, h3, hlook, _, h4, _, _⟩ :=
    auth4_roundtrip_typed k hk claims ext unprot key vkey auth check hcorr hvk ha har hokp hndp hlenp m1 h w hw hok hnd hlen hpl hsl
  exact ⟨bytes, m2, pm', h1, h2, h3, h4, fun o => validateMap_roundtrip o claims pm' hokp hndp hlook⟩

end Cose.Props.CwtEndToEnd
