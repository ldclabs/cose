import Cose.Props.C01Mac
/-!
# C09 — decode ∘ encode is the identity on a decoded message, the remaining kinds

`Props/C09.lean` has COSE_Sign1 / COSE_Mac0 and `Props/C09Sign.lean` COSE_Sign.  Here:

* `enc0_reencode_fixpoint` — COSE_Encrypt0: protected bytes as received, unprotected map, ciphertext;
* `mac_reencode_fixpoint` — COSE_Mac: protected bytes, payload, tag **and the whole recipient list**, any number of
  recipients;
* `encrypt_reencode_fixpoint` — COSE_Encrypt: protected bytes, ciphertext and the recipient list.

What is asked of each recipient (`RecipStable`) is what holds of a decoded one whose protected bucket the sender
encoded deterministically: its own wire form decodes back to itself.  (A recipient's protected bucket is *re-encoded
from the map* by the library — unlike a message's or a signature's, which are kept as received — so a recipient with
a non-canonical bucket is outside the fixed point; recipients are not covered by the authenticated structures.)
`decrypt` looks at the retained wire struct only through fields that are preserved, so the verdict and the plaintext
are the same before and after (`enc_reencoded_same_result`).
-/
namespace Cose.Props.C09All
open Cose.Msg Cose.Go Cose.Cbor Cose.Gen Cose.Props.C01 Cose.Props.C01Mac

/-- a recipient that is a fixed point of encode ∘ decode -/
abbrev RecipStable (r : Recip) (c : Cbor) : Prop := RecipEnc r c r

theorem all3_of_stable {rs : List Recip} {cs : List Cbor}
    (h : Cose.Props.C01Sign.All2 RecipStable rs cs) : All3 RecipEnc rs cs rs := by
  induction h with
  | nil => exact .nil
  | cons h _ ih => exact .cons h ih

/-- **COSE_Encrypt0**: re-encoding a decoded message and decoding again gives the same wire struct -/
theorem enc0_reencode_fixpoint (w : Wire)
    (u : Cbor) (hu : hdrCbor w.unprot = some u) (huw : WF u) (hud : depth u + 2 < maxNesting)
    (uh : Hdr) (huf : hdrField u = .ok uh)
    (hp : ∀ x, w.prot = some x → x.length < two64) (hy : ∀ x, w.payload = some x → x.length < two64)
    (pm : CMap) (hpm : hdrFromBytes w.prot = .ok pm) (mode : PMode) :
    ∃ bytes m2 w2, marshal .encrypt0 w = some bytes ∧ unmarshal .encrypt0 mode bytes = .ok m2 ∧ m2.mm = some w2 ∧
      w2.prot = w.prot ∧ w2.unprot = uh ∧ w2.payload = w.payload ∧ m2.prot = some pm := by
  obtain ⟨bytes, hmar, hun⟩ := enc0_decode mode w ⟨⟨u, hu, rfl⟩, huw, hud, huf⟩ hp hy hpm
  exact ⟨_, _, _, hmar, hun, rfl, rfl, rfl, rfl, rfl⟩

/-- **COSE_Mac**: protected bytes, payload, tag and every recipient survive encode → decode -/
theorem mac_reencode_fixpoint (w : Wire) (rs : List Recip) (cs : List Cbor) (hr : w.recips = some rs)
    (hst : Cose.Props.C01Sign.All2 RecipStable rs cs) (hne : rs ≠ []) (hn : rs.length ≤ maxElems)
    (u : Cbor) (hu : hdrCbor w.unprot = some u) (huw : WF u) (hud : depth u + 2 < maxNesting)
    (uh : Hdr) (huf : hdrField u = .ok uh)
    (hp : ∀ x, w.prot = some x → x.length < two64) (hy : ∀ x, w.payload = some x → x.length < two64)
    (ha : ∀ x, w.auth = some x → x.length < two64)
    (pm : CMap) (hpm : hdrFromBytes w.prot = .ok pm) :
    ∃ bytes m2 w2, marshal .mac w = some bytes ∧ unmarshal .mac .raw bytes = .ok m2 ∧ m2.mm = some w2 ∧
      w2.prot = w.prot ∧ w2.unprot = uh ∧ w2.payload = w.payload ∧ w2.auth = w.auth ∧ w2.recips = some rs ∧
      m2.prot = some pm := by
  obtain ⟨bytes, hmar, hun⟩ := mac_decode .raw w ⟨⟨u, hu, rfl⟩, huw, hud, huf⟩ hp hy ha hr (all3_of_stable hst) hne hn
    hpm (payloadFromWire_raw _)
  exact ⟨_, _, _, hmar, hun, rfl, rfl, rfl, rfl, rfl, rfl, rfl⟩

/-- **COSE_Encrypt**: protected bytes, ciphertext and every recipient survive encode → decode -/
theorem encrypt_reencode_fixpoint (w : Wire) (rs : List Recip) (cs : List Cbor) (hr : w.recips = some rs)
    (hst : Cose.Props.C01Sign.All2 RecipStable rs cs) (hne : rs ≠ []) (hn : rs.length ≤ maxElems)
    (u : Cbor) (hu : hdrCbor w.unprot = some u) (huw : WF u) (hud : depth u + 2 < maxNesting)
    (uh : Hdr) (huf : hdrField u = .ok uh)
    (hp : ∀ x, w.prot = some x → x.length < two64) (hy : ∀ x, w.payload = some x → x.length < two64)
    (pm : CMap) (hpm : hdrFromBytes w.prot = .ok pm) (mode : PMode) :
    ∃ bytes m2 w2, marshal .encrypt w = some bytes ∧ unmarshal .encrypt mode bytes = .ok m2 ∧ m2.mm = some w2 ∧
      w2.prot = w.prot ∧ w2.unprot = uh ∧ w2.payload = w.payload ∧ w2.recips = some rs ∧ m2.prot = some pm := by
  obtain ⟨bytes, hmar, hun⟩ := encR_decode mode w ⟨⟨u, hu, rfl⟩, huw, hud, huf⟩ hp hy hr (all3_of_stable hst) hne hn hpm
  exact ⟨_, _, _, hmar, hun, rfl, rfl, rfl, rfl, rfl, rfl⟩

/-- `Decrypt` reads the retained wire struct through the protected bytes and the ciphertext, and the message object
    through its kind, its decoded protected map, its unprotected map and (for a typed payload) the payload member it
    decodes into: with those preserved, verdict and plaintext are the same -/
theorem enc_reencoded_same_result (m m2 : Msg) (w w2 : Wire) (hm : m.mm = some w) (hm2 : m2.mm = some w2)
    (hk : m2.kind = m.kind) (hpm : m2.prot = m.prot) (hum : m2.unprot = m.unprot) (hpl : m2.payload = m.payload)
    (h1 : w2.prot = w.prot) (h3 : w2.payload = w.payload)
    (mode : PMode) (e : Encryptor) (ext : Option Bytes) :
    decryptEnc m2 mode e ext = decryptEnc m mode e ext := by
  unfold decryptEnc
  simp only [hm, hm2, hk, hpm, hum, hpl, h3,
    tobe_congr (w := { w with payload := none }) (w2 := { w2 with payload := none }) h1 rfl]

/-! ### non-vacuity: the "direct" recipient as the decoder returns it is stable -/

theorem direct_recipient_stable (kid : Bytes) (hk : kid.length < two64) :
    RecipStable (directBack kid) (directCbor kid) where
  cbor := by
    simp [directBack, directCbor, recipCbor, hdrBytes, hdrCbor, CMap.toCbor, cmapPairs, toCbor, Label.toCbor, Cbor.ofInt, bytesCbor]
  three := ⟨_, _, _, rfl⟩
  wf := (direct_recipient kid hk).wf
  dep := (direct_recipient kid hk).dep
  field := (direct_recipient kid hk).field

example : Cose.Props.C01Sign.All2 RecipStable [directBack [1], directBack [2, 2]] [directCbor [1], directCbor [2, 2]] :=
  .cons (direct_recipient_stable _ (by simp [two64])) (.cons (direct_recipient_stable _ (by simp [two64])) .nil)

end Cose.Props.C09All
