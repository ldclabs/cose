import Cose.Bytes
import Cose.Crypto.Aes

/-!
# AES-GCM (NIST SP 800-38D), 96-bit nonce, 128-bit tag

Executable reference implementation used as an independent oracle.
Core-only; every function is total.

A 128-bit GHASH element is a pair `(hi, lo)` of `UInt64`: `hi` holds bytes 0..7 of the
block big-endian, `lo` bytes 8..15. In SP 800-38D bit numbering, bit 0 is the most
significant bit of `hi`.
-/

namespace Cose.Crypto

/-- Byte `i` of `b`, or `0` past the end. -/
@[inline] def byteAtD (b : ByteArray) (i : Nat) : UInt8 :=
  if h : i < b.size then b[i] else 0

/-- Big-endian 64-bit load at offset `i`, zero-padded past the end. -/
@[inline] def be64AtD (b : ByteArray) (i : Nat) : UInt64 :=
  ((byteAtD b i).toUInt64 <<< 56) ||| ((byteAtD b (i+1)).toUInt64 <<< 48) |||
  ((byteAtD b (i+2)).toUInt64 <<< 40) ||| ((byteAtD b (i+3)).toUInt64 <<< 32) |||
  ((byteAtD b (i+4)).toUInt64 <<< 24) ||| ((byteAtD b (i+5)).toUInt64 <<< 16) |||
  ((byteAtD b (i+6)).toUInt64 <<< 8) ||| (byteAtD b (i+7)).toUInt64

/-- Big-endian serialisation of a 128-bit value `(hi, lo)`: always exactly 16 bytes. -/
def be128Bytes (hi lo : UInt64) : Bytes :=
  [(hi >>> 56).toUInt8, (hi >>> 48).toUInt8, (hi >>> 40).toUInt8, (hi >>> 32).toUInt8,
   (hi >>> 24).toUInt8, (hi >>> 16).toUInt8, (hi >>> 8).toUInt8, hi.toUInt8,
   (lo >>> 56).toUInt8, (lo >>> 48).toUInt8, (lo >>> 40).toUInt8, (lo >>> 32).toUInt8,
   (lo >>> 24).toUInt8, (lo >>> 16).toUInt8, (lo >>> 8).toUInt8, lo.toUInt8]

theorem be128Bytes_length (hi lo : UInt64) : (be128Bytes hi lo).length = 16 := rfl

/-! ## GF(2^128) multiplication (SP 800-38D §6.3, Algorithm 1) -/

/-- `gfMulLoop n X V Z`: `n` remaining steps of Algorithm 1. At each step the current top
bit of `X` selects whether `V` is added to `Z`; then `V := V·x` (right shift with reduction
by `R = 11100001 ‖ 0^120`) and `X` is shifted left. -/
def gfMulLoop : Nat → UInt64 → UInt64 → UInt64 → UInt64 → UInt64 → UInt64 → UInt64 × UInt64
  | 0, _, _, _, _, zh, zl => (zh, zl)
  | n + 1, xh, xl, vh, vl, zh, zl =>
    let m : UInt64 := (0 : UInt64) - (xh >>> 63)          -- all-ones iff current bit of X is 1
    let r : UInt64 := (0 : UInt64) - (vl &&& 1)           -- all-ones iff LSB of V is 1
    gfMulLoop n ((xh <<< 1) ||| (xl >>> 63)) (xl <<< 1)
      ((vh >>> 1) ^^^ (r &&& 0xe100000000000000)) ((vl >>> 1) ||| (vh <<< 63))
      (zh ^^^ (vh &&& m)) (zl ^^^ (vl &&& m))

/-- Product `X • Y` in GF(2^128) with the GCM bit ordering. -/
def gfMul (xh xl yh yl : UInt64) : UInt64 × UInt64 :=
  gfMulLoop 128 xh xl yh yl 0 0

/-- Absorb `data` (zero-padded to a multiple of 16 bytes) into the GHASH accumulator `y`
under hash subkey `H = (hh, hl)`: `y := (y ⊕ block) • H` for each block. -/
def ghashUpdate (hh hl : UInt64) (y : UInt64 × UInt64) (data : ByteArray) : UInt64 × UInt64 := Id.run do
  let mut yh := y.1
  let mut yl := y.2
  for j in [0:(data.size + 15) / 16] do
    let z := gfMul (yh ^^^ be64AtD data (16 * j)) (yl ^^^ be64AtD data (16 * j + 8)) hh hl
    yh := z.1
    yl := z.2
  return (yh, yl)

/-! ## GCTR / tag -/

/-- First `n` bytes of the CTR keystream that is XORed with the plaintext, i.e. the
encryptions of counter blocks `inc32(J0), inc32^2(J0), …` where `J0 = nonce ‖ 0x00000001`
(the 32-bit counter starts at 2 and wraps mod 2^32).
The nonce is zero-padded / truncated to 12 bytes; `gcmSeal`/`gcmOpen` reject other lengths. -/
def gcmKeystream (k : AesKey) (nonce : Bytes) (n : Nat) : Bytes :=
  let na := nonce.toArray
  let n0 := be32At na 0
  let n1 := be32At na 4
  let n2 := (be32At na 8)
  let nblocks := (n + 15) / 16
  let ks : ByteArray := Id.run do
    let mut out := ByteArray.emptyWithCapacity (16 * nblocks)
    let mut ctr : UInt32 := 2
    for _ in [0:nblocks] do
      let b := aesEncryptWords k n0 n1 n2 ctr
      for w in [b.w0, b.w1, b.w2, b.w3] do
        out := out.push (w >>> 24).toUInt8
        out := out.push (w >>> 16).toUInt8
        out := out.push (w >>> 8).toUInt8
        out := out.push w.toUInt8
      ctr := ctr + 1
    return out
  -- `ks` already has ≥ n bytes; the padding only makes the length lemma immediate.
  (ks.toList ++ List.replicate n 0).take n

theorem gcmKeystream_length (k : AesKey) (nonce : Bytes) (n : Nat) :
    (gcmKeystream k nonce n).length = n := by
  rw [gcmKeystream, List.length_take, List.length_append, List.length_replicate]
  exact Nat.min_eq_left (Nat.le_add_left _ _)

/-- The 16-byte GCM tag over `(aad, ct)`:
`E_K(J0) ⊕ GHASH_H(aad ‖ pad ‖ ct ‖ pad ‖ [8·|aad|]_64 ‖ [8·|ct|]_64)`, `H = E_K(0^128)`. -/
def gcmTag (k : AesKey) (nonce aad ct : Bytes) : Bytes :=
  let h := aesEncryptWords k 0 0 0 0
  let hh := (h.w0.toUInt64 <<< 32) ||| h.w1.toUInt64
  let hl := (h.w2.toUInt64 <<< 32) ||| h.w3.toUInt64
  let y := ghashUpdate hh hl (0, 0) aad.toByteArray
  let y := ghashUpdate hh hl y ct.toByteArray
  let s := gfMul (y.1 ^^^ (8 * aad.length).toUInt64) (y.2 ^^^ (8 * ct.length).toUInt64) hh hl
  let na := nonce.toArray
  let e := aesEncryptWords k (be32At na 0) (be32At na 4) (be32At na 8) 1
  be128Bytes (s.1 ^^^ ((e.w0.toUInt64 <<< 32) ||| e.w1.toUInt64))
             (s.2 ^^^ ((e.w2.toUInt64 <<< 32) ||| e.w3.toUInt64))

theorem gcmTag_length (k : AesKey) (nonce aad ct : Bytes) :
    (gcmTag k nonce aad ct).length = 16 := rfl

/-- Byte-wise XOR (result has the length of the shorter argument). -/
def xorBytes (a b : Bytes) : Bytes := List.zipWith (· ^^^ ·) a b

/-! ## AEAD -/

/-- AES-GCM encryption: `ciphertext ‖ tag`. `none` if the key is not 16/24/32 bytes or the
nonce is not 12 bytes. -/
def gcmSeal (key nonce pt aad : Bytes) : Option Bytes :=
  match aesExpandKey key with
  | none => none
  | some k =>
    if nonce.length = 12 then
      let ct := xorBytes pt (gcmKeystream k nonce pt.length)
      some (ct ++ gcmTag k nonce aad ct)
    else none

/-- AES-GCM decryption of `ciphertext ‖ tag`. `none` on bad key/nonce size, input shorter
than a tag, or tag mismatch. -/
def gcmOpen (key nonce ctAndTag aad : Bytes) : Option Bytes :=
  match aesExpandKey key with
  | none => none
  | some k =>
    if nonce.length = 12 ∧ 16 ≤ ctAndTag.length then
      let n := ctAndTag.length - 16
      let ct := ctAndTag.take n
      let tag := ctAndTag.drop n
      if gcmTag k nonce aad ct == tag then
        some (xorBytes ct (gcmKeystream k nonce n))
      else none
    else none

/-! ## Known-answer tests (McGrew & Viega, "The Galois/Counter Mode of Operation", App. B) -/

section KAT

private def kat (key iv pt aad ct tag : String) : Bool :=
  let key := hexToBytes key
  let iv := hexToBytes iv
  let pt := hexToBytes pt
  let aad := hexToBytes aad
  let out := hexToBytes ct ++ hexToBytes tag
  gcmSeal key iv pt aad == some out && gcmOpen key iv out aad == some pt

private def k128 := "feffe9928665731c6d6a8f9467308308"
private def k192 := "feffe9928665731c6d6a8f9467308308feffe9928665731c"
private def k256 := "feffe9928665731c6d6a8f9467308308feffe9928665731c6d6a8f9467308308"
private def iv96 := "cafebabefacedbaddecaf888"
private def z96 := "000000000000000000000000"
private def z128 := "00000000000000000000000000000000"
private def p64 :=
  "d9313225f88406e5a55909c5aff5269a86a7a9531534f7da2e4c303d8a318a72" ++
  "1c3c0c95956809532fcf0e2449a6b525b16aedf5aa0de657ba637b391aafd255"
private def p60 :=
  "d9313225f88406e5a55909c5aff5269a86a7a9531534f7da2e4c303d8a318a72" ++
  "1c3c0c95956809532fcf0e2449a6b525b16aedf5aa0de657ba637b39"
private def a20 := "feedfacedeadbeeffeedfacedeadbeefabaddad2"

-- Test cases 1-4 (AES-128)
#guard kat z128 z96 "" "" "" "58e2fccefa7e3061367f1d57a4e7455a"
#guard kat z128 z96 z128 "" "0388dace60b6a392f328c2b971b2fe78" "ab6e47d42cec13bdf53a67b21257bddf"
#guard kat k128 iv96 p64 ""
  ("42831ec2217774244b7221b784d0d49ce3aa212f2c02a4e035c17e2329aca12e" ++
   "21d514b25466931c7d8f6a5aac84aa051ba30b396a0aac973d58e091473f5985")
  "4d5c2af327cd64a62cf35abd2ba6fab4"
#guard kat k128 iv96 p60 a20
  ("42831ec2217774244b7221b784d0d49ce3aa212f2c02a4e035c17e2329aca12e" ++
   "21d514b25466931c7d8f6a5aac84aa051ba30b396a0aac973d58e091")
  "5bc94fbc3221a5db94fae95ae7121a47"
-- Test cases 7-10 (AES-192)
#guard kat (z128 ++ "0000000000000000") z96 "" "" "" "cd33b28ac773f74ba00ed1f312572435"
#guard kat (z128 ++ "0000000000000000") z96 z128 ""
  "98e7247c07f0fe411c267e4384b0f600" "2ff58d80033927ab8ef4d4587514f0fb"
#guard kat k192 iv96 p64 ""
  ("3980ca0b3c00e841eb06fac4872a2757859e1ceaa6efd984628593b40ca1e19c" ++
   "7d773d00c144c525ac619d18c84a3f4718e2448b2fe324d9ccda2710acade256")
  "9924a7c8587336bfb118024db8674a14"
#guard kat k192 iv96 p60 a20
  ("3980ca0b3c00e841eb06fac4872a2757859e1ceaa6efd984628593b40ca1e19c" ++
   "7d773d00c144c525ac619d18c84a3f4718e2448b2fe324d9ccda2710")
  "2519498e80f1478f37ba55bd6d27618c"
-- Test cases 13-16 (AES-256)
#guard kat (z128 ++ z128) z96 "" "" "" "530f8afbc74536b9a963b4f1c4cb738b"
#guard kat (z128 ++ z128) z96 z128 ""
  "cea7403d4d606b6e074ec5d3baf39d18" "d0d1c8a799996bf0265b98b5d48ab919"
#guard kat k256 iv96 p64 ""
  ("522dc1f099567d07f47f37a32a84427d643a8cdcbfe5c0c97598a2bd2555d1aa" ++
   "8cb08e48590dbb3da7b08b1056828838c5f61e6393ba7a0abcc9f662898015ad")
  "b094dac5d93471bdec1a502270e3cc6c"
#guard kat k256 iv96 p60 a20
  ("522dc1f099567d07f47f37a32a84427d643a8cdcbfe5c0c97598a2bd2555d1aa" ++
   "8cb08e48590dbb3da7b08b1056828838c5f61e6393ba7a0abcc9f662")
  "76fc6ece0f4e1768cddf8853bb2d551b"

-- Keystream / tag are consistent with the block cipher: H, E(J0), first keystream block.
#guard (aesExpandKey (hexToBytes z128)).map (fun k => gcmKeystream k (hexToBytes z96) 16)
        == aesEncryptBlock (hexToBytes z128) (hexToBytes (z96 ++ "00000002"))
#guard (aesExpandKey (hexToBytes k128)).map (fun k => gcmKeystream k (hexToBytes iv96) 37)
        == (do
          let b1 ← aesEncryptBlock (hexToBytes k128) (hexToBytes (iv96 ++ "00000002"))
          let b2 ← aesEncryptBlock (hexToBytes k128) (hexToBytes (iv96 ++ "00000003"))
          let b3 ← aesEncryptBlock (hexToBytes k128) (hexToBytes (iv96 ++ "00000004"))
          pure ((b1 ++ b2 ++ b3).take 37))
#guard (aesExpandKey (hexToBytes k128)).map (fun k => (gcmKeystream k (hexToBytes iv96) 0).length) == some 0

-- Rejections: wrong nonce length, wrong key length, short input, corrupted tag / ct / aad.
#guard gcmSeal (hexToBytes k128) (hexToBytes "cafebabefacedbad") [] [] == none
#guard gcmSeal (hexToBytes k128) (hexToBytes (iv96 ++ "00")) [] [] == none
#guard gcmSeal (hexToBytes "00") (hexToBytes iv96) [] [] == none
#guard gcmOpen (hexToBytes k128) (hexToBytes iv96) (List.replicate 15 0) [] == none
#guard gcmOpen (hexToBytes z128) (hexToBytes z96) (hexToBytes "58e2fccefa7e3061367f1d57a4e7455a") [] == some []
#guard gcmOpen (hexToBytes z128) (hexToBytes z96) (hexToBytes "58e2fccefa7e3061367f1d57a4e7455b") [] == none
#guard gcmOpen (hexToBytes z128) (hexToBytes z96) (hexToBytes "58e2fccefa7e3061367f1d57a4e7455a") [0] == none
#guard gcmOpen (hexToBytes z128) (hexToBytes z96)
        (hexToBytes "0388dace60b6a392f328c2b971b2fe79ab6e47d42cec13bdf53a67b21257bddf") [] == none

end KAT

end Cose.Crypto
