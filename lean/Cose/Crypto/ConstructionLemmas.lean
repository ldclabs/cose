import Cose.Crypto.Constructions
/-! Theorems about the generic constructions, for every hash / block cipher / keystream. -/
namespace Cose.Crypto

theorem xorBytes'_length (a b : Bytes) : (xorBytes' a b).length = min a.length b.length := List.length_zipWith

theorem xorBytes'_involutive : ∀ (p k : Bytes), p.length ≤ k.length → xorBytes' (xorBytes' p k) k = p
  | [], _, _ => by simp [xorBytes']
  | _ :: _, [], h => by simp at h
  | a :: p, b :: k, h => by
    have ih := xorBytes'_involutive p k (by simpa using h)
    unfold xorBytes' at *
    simp only [List.zipWith_cons_cons, UInt8.xor_assoc, UInt8.xor_self, UInt8.xor_zero, ih]

theorem xorBytes'_cancel {p k : Bytes} (h : k.length = p.length) :
    (xorBytes' p k).length = p.length ∧ xorBytes' (xorBytes' p k) k = p :=
  ⟨by rw [xorBytes'_length, h, Nat.min_self], xorBytes'_involutive p k (Nat.le_of_eq h.symm)⟩

theorem zeros_length (n : Nat) : (zeros n).length = n := List.length_replicate

theorem zpad16_length_mod (m : Bytes) : (zpad16 m).length % 16 = 0 := by
  unfold zpad16; simp only [List.length_append, zeros_length]; omega

theorem zpad16_aligned {m : Bytes} (h : m.length % 16 = 0) : zpad16 m = m := by
  unfold zpad16; simp [h, zeros]

theorem zpad16_length_lt (m : Bytes) : (zpad16 m).length < m.length + 16 := by
  unfold zpad16; simp only [List.length_append, zeros_length]; omega

theorem zpad16_prefix (m : Bytes) : (zpad16 m).take m.length = m := by unfold zpad16; simp

theorem cbcMacFull_aligned (E : Bytes → Bytes) {m : Bytes} (h : m.length % 16 = 0) :
    cbcMacFull E m = cbcChain E (m.length / 16) (zeros 16) m := by
  rw [cbcMacFull, zpad16_aligned h]

theorem cbcChain_length (E : Bytes → Bytes) (hE : ∀ b, (E b).length = 16) :
    ∀ (n : Nat) (x data : Bytes), x.length = 16 → (cbcChain E n x data).length = 16
  | 0, _, _, hx => hx
  | n + 1, _, _, _ => cbcChain_length E hE n _ _ (hE _)

theorem cbcMacFull_length (E : Bytes → Bytes) (hE : ∀ b, (E b).length = 16) (m : Bytes) : (cbcMacFull E m).length = 16 :=
  cbcChain_length E hE _ _ _ (zeros_length 16)

theorem cbcMac_length (E : Bytes → Bytes) (hE : ∀ b, (E b).length = 16) (t : Nat) (ht : t ≤ 16) (m : Bytes) :
    (cbcMac E t m).length = t := by
  rw [cbcMac, List.length_take, cbcMacFull_length E hE, Nat.min_eq_left ht]

theorem cbcMac_prefix (E : Bytes → Bytes) (t t' : Nat) (h : t ≤ t') (m : Bytes) :
    cbcMac E t m = (cbcMac E t' m).take t := by
  rw [cbcMac, cbcMac, List.take_take, Nat.min_eq_left h]

theorem hmac_length (H : Bytes → Bytes) (hl : Nat) (hH : ∀ m, (H m).length = hl) (B : Nat) (key msg : Bytes) :
    (hmac H B key msg).length = hl := hH _

theorem StreamAead.seal_length (A : StreamAead) (hks : ∀ k n l, (A.ks k n l).length = l)
    (htag : ∀ k n a c, (A.tag k n a c).length = A.tagLen) (key nonce pt aad : Bytes) :
    (A.seal key nonce pt aad).length = pt.length + A.tagLen := by
  unfold StreamAead.seal
  simp [xorBytes'_length, hks, htag]

theorem StreamAead.open_seal (A : StreamAead) (hks : ∀ k n l, (A.ks k n l).length = l)
    (htag : ∀ k n a c, (A.tag k n a c).length = A.tagLen) (key nonce pt aad : Bytes) :
    A.open key nonce (A.seal key nonce pt aad) aad = some pt := by
  obtain ⟨hc, hinv⟩ := xorBytes'_cancel (hks key nonce pt.length)
  unfold StreamAead.open StreamAead.seal
  simp only [List.length_append, htag, hc, Nat.add_sub_cancel, List.take_left' hc, List.drop_left' hc]
  rw [if_neg (Nat.not_lt.mpr (Nat.le_add_left _ _)), if_pos trivial, hinv]

theorem StreamAead.open_unique (A : StreamAead) (hks : ∀ k n l, (A.ks k n l).length = l)
    {key nonce ct aad p : Bytes} (h : A.open key nonce ct aad = some p) : ct = A.seal key nonce p aad := by
  unfold StreamAead.open at h
  obtain ⟨-, h⟩ := Option.ite_none_left_eq_some.mp h
  obtain ⟨htag, rfl⟩ := Option.ite_some_none_eq_some.mp h
  -- `p` is the ciphertext part under the key stream: sealing it gives that part back, and its tag is the rest
  obtain ⟨hc, hinv⟩ := xorBytes'_cancel (hks key nonce (ct.take (ct.length - A.tagLen)).length)
  rw [StreamAead.seal, hc, hinv, htag, List.take_append_drop]

theorem ccmStream_length (E : Bytes → Bytes) (L : Nat) (nonce : Bytes) (n : Nat) :
    (ccmStream E L nonce n).length = n := by
  unfold ccmStream; simp [zeros_length]

theorem ccmT_length (E : Bytes → Bytes) (hE : ∀ b, (E b).length = 16) (M L : Nat) (hM : M ≤ 16)
    (nonce aad pt : Bytes) : (ccmT E M L nonce aad pt).length = M := by
  unfold ccmT
  rw [List.length_take, cbcChain_length E hE _ _ _ (zeros_length 16), Nat.min_eq_left hM]

theorem ccmSeal_length (E : Bytes → Bytes) (hE : ∀ b, (E b).length = 16) (M L : Nat) (hM : M ≤ 16)
    (nonce pt aad : Bytes) : (ccmSeal E M L nonce pt aad).length = pt.length + M := by
  unfold ccmSeal
  simp only [List.length_append, xorBytes'_length, ccmStream_length, ccmT_length E hE M L hM, List.length_take, hE,
    Nat.min_self, Nat.min_eq_left hM]

theorem ccmOpen_seal (E : Bytes → Bytes) (hE : ∀ b, (E b).length = 16) (M L : Nat) (hM : M ≤ 16)
    (nonce pt aad : Bytes) : ccmOpen E M L nonce (ccmSeal E M L nonce pt aad) aad = some pt := by
  obtain ⟨hc, hinv⟩ := xorBytes'_cancel (ccmStream_length E L nonce pt.length)
  unfold ccmOpen
  simp only [ccmSeal_length E hE M L hM, Nat.add_sub_cancel]
  unfold ccmSeal
  simp only [List.take_left' hc, List.drop_left' hc, hc]
  rw [if_neg (Nat.not_lt.mpr (Nat.le_add_left _ _)), hinv, if_pos rfl]

theorem hkdfBlocks_length (P : Bytes → Bytes → Bytes) (hl : Nat) (hP : ∀ k m, (P k m).length = hl)
    (prk info : Bytes) : ∀ n, (hkdfBlocks P prk info n).1.length = n * hl
  | 0 => by simp [hkdfBlocks]
  | n + 1 => by
    have ih := hkdfBlocks_length P hl hP prk info n
    simp only [hkdfBlocks, List.length_append, ih, hP]
    rw [Nat.succ_mul]

theorem hkdfBlocks_prefix (P : Bytes → Bytes → Bytes) (prk info : Bytes) (n : Nat) :
    ∀ k, (hkdfBlocks P prk info n).1 <+: (hkdfBlocks P prk info (n + k)).1
  | 0 => List.prefix_refl _
  | k + 1 => (hkdfBlocks_prefix P prk info n k).trans (List.prefix_append _ _)

theorem hkdfBlocks_take (P : Bytes → Bytes → Bytes) (hl : Nat) (hP : ∀ k m, (P k m).length = hl) (prk info : Bytes)
    {n m : Nat} (h : n ≤ m) : (hkdfBlocks P prk info n).1 = ((hkdfBlocks P prk info m).1).take (n * hl) := by
  obtain ⟨k, rfl⟩ := Nat.exists_eq_add_of_le h
  rw [← hkdfBlocks_length P hl hP prk info n]
  exact List.prefix_iff_eq_take.mp (hkdfBlocks_prefix P prk info n k)

theorem hkdfExpand_limit (P : Bytes → Bytes → Bytes) (hl : Nat) (prk info : Bytes) (l : Nat) :
    (hkdfExpand P hl prk info l).isSome = decide (l ≤ 255 * hl) := by
  unfold hkdfExpand
  split
  · exact (decide_eq_false (Nat.not_le.mpr ‹_›)).symm
  · exact (decide_eq_true (Nat.le_of_not_lt ‹_›)).symm

theorem hkdfExpand_eq_take (P : Bytes → Bytes → Bytes) (hl : Nat) (hpos : 0 < hl) (hP : ∀ k m, (P k m).length = hl)
    (prk info : Bytes) {l : Nat} (h : l ≤ 255 * hl) :
    hkdfExpand P hl prk info l = some (((hkdfBlocks P prk info 255).1).take l) := by
  -- the ⌈l / hl⌉ blocks it generates are at most 255 and hold at least `l` bytes
  have hn : (l + hl - 1) / hl ≤ 255 := by
    rw [Nat.div_le_iff_le_mul_add_pred hpos]; omega
  have hc : l ≤ (l + hl - 1) / hl * hl := by
    have := Nat.lt_div_mul_add (a := l + hl - 1) hpos
    omega
  rw [hkdfExpand, if_neg (Nat.not_lt.mpr h), hkdfBlocks_take P hl hP prk info hn, List.take_take, Nat.min_eq_left hc]

theorem hkdfExpand_prefix (P : Bytes → Bytes → Bytes) (hl : Nat) (hpos : 0 < hl) (hP : ∀ k m, (P k m).length = hl)
    (prk info : Bytes) {l l' : Nat} (h : l ≤ l') (hmax : l' ≤ 255 * hl) :
    hkdfExpand P hl prk info l = (hkdfExpand P hl prk info l').map (·.take l) := by
  rw [hkdfExpand_eq_take P hl hpos hP prk info hmax, hkdfExpand_eq_take P hl hpos hP prk info (Nat.le_trans h hmax),
    Option.map_some, List.take_take, Nat.min_eq_left h]

theorem hkdfExpand_length (P : Bytes → Bytes → Bytes) (hl : Nat) (hpos : 0 < hl) (hP : ∀ k m, (P k m).length = hl)
    {prk info : Bytes} {l : Nat} {out : Bytes} (h : hkdfExpand P hl prk info l = some out) : out.length = l := by
  have hmax : l ≤ 255 * hl := of_decide_eq_true (by rw [← hkdfExpand_limit P hl prk info l, h]; rfl)
  rw [hkdfExpand_eq_take P hl hpos hP prk info hmax] at h
  cases h
  rw [List.length_take, hkdfBlocks_length P hl hP, Nat.min_eq_left hmax]

end Cose.Crypto
