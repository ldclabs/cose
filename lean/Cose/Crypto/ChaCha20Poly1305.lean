import Cose.Bytes

/-!
# ChaCha20, Poly1305 and AEAD_CHACHA20_POLY1305 (RFC 8439)

Executable reference implementation used as an independent oracle.
Core-only; every function is total. Poly1305 is done with plain `Nat` arithmetic
modulo `2^130 - 5`, exactly as in RFC 8439 §2.5.1.
-/

namespace Cose.Crypto

/-! ## Little-endian helpers -/

/-- Little-endian 32-bit load at offset `i`; missing bytes read as zero. -/
@[inline] def le32At (a : Array UInt8) (i : Nat) : UInt32 :=
  (a.getD i 0).toUInt32 ||| ((a.getD (i+1) 0).toUInt32 <<< 8) |||
  ((a.getD (i+2) 0).toUInt32 <<< 16) ||| ((a.getD (i+3) 0).toUInt32 <<< 24)

/-- Byte `i` of `b` or `0` past the end. -/
@[inline] def leByteAtD (b : ByteArray) (i : Nat) : UInt8 :=
  if h : i < b.size then b[i] else 0

/-- Little-endian 64-bit load at offset `i`, zero-padded past the end. -/
@[inline] def le64AtD (b : ByteArray) (i : Nat) : UInt64 :=
  (leByteAtD b i).toUInt64 ||| ((leByteAtD b (i+1)).toUInt64 <<< 8) |||
  ((leByteAtD b (i+2)).toUInt64 <<< 16) ||| ((leByteAtD b (i+3)).toUInt64 <<< 24) |||
  ((leByteAtD b (i+4)).toUInt64 <<< 32) ||| ((leByteAtD b (i+5)).toUInt64 <<< 40) |||
  ((leByteAtD b (i+6)).toUInt64 <<< 48) ||| ((leByteAtD b (i+7)).toUInt64 <<< 56)

/-- Little-endian 128-bit load at offset `i` as a `Nat`, zero-padded past the end. -/
@[inline] def le128AtD (b : ByteArray) (i : Nat) : Nat :=
  (le64AtD b i).toNat + ((le64AtD b (i + 8)).toNat <<< 64)

/-- Little-endian serialisation of a 64-bit value: exactly 8 bytes. -/
def le64Bytes (x : UInt64) : Bytes :=
  [x.toUInt8, (x >>> 8).toUInt8, (x >>> 16).toUInt8, (x >>> 24).toUInt8,
   (x >>> 32).toUInt8, (x >>> 40).toUInt8, (x >>> 48).toUInt8, (x >>> 56).toUInt8]

/-- Little-endian serialisation of `lo + 2^64·hi`: exactly 16 bytes. -/
def le128Bytes (lo hi : UInt64) : Bytes := le64Bytes lo ++ le64Bytes hi

theorem le128Bytes_length (lo hi : UInt64) : (le128Bytes lo hi).length = 16 := rfl

/-! ## ChaCha20 block function (RFC 8439 §2.1-2.3) -/

@[inline] def rotl32 (x : UInt32) (n : UInt32) : UInt32 := (x <<< n) ||| (x >>> (32 - n))

/-- Quarter round on state words `a b c d` (§2.1). -/
def quarterRound (s : Array UInt32) (a b c d : Nat) : Array UInt32 :=
  let sa := s[a]!
  let sb := s[b]!
  let sc := s[c]!
  let sd := s[d]!
  let sa := sa + sb
  let sd := rotl32 (sd ^^^ sa) 16
  let sc := sc + sd
  let sb := rotl32 (sb ^^^ sc) 12
  let sa := sa + sb
  let sd := rotl32 (sd ^^^ sa) 8
  let sc := sc + sd
  let sb := rotl32 (sb ^^^ sc) 7
  (((s.set! a sa).set! b sb).set! c sc).set! d sd

/-- One column round followed by one diagonal round (§2.3). -/
def doubleRound (s : Array UInt32) : Array UInt32 :=
  let s := quarterRound s 0 4 8 12
  let s := quarterRound s 1 5 9 13
  let s := quarterRound s 2 6 10 14
  let s := quarterRound s 3 7 11 15
  let s := quarterRound s 0 5 10 15
  let s := quarterRound s 1 6 11 12
  let s := quarterRound s 2 7 8 13
  quarterRound s 3 4 9 14

/-- Initial state: constants, 8 key words, block counter, 3 nonce words (§2.3).
Key / nonce are zero-padded or truncated to 32 / 12 bytes. -/
def chachaInit (key nonce : Array UInt8) (counter : UInt32) : Array UInt32 :=
  #[0x61707865, 0x3320646e, 0x79622d32, 0x6b206574,
    le32At key 0, le32At key 4, le32At key 8, le32At key 12,
    le32At key 16, le32At key 20, le32At key 24, le32At key 28,
    counter, le32At nonce 0, le32At nonce 4, le32At nonce 8]

/-- 20 rounds, then add the initial state word-wise. -/
def chachaCore (init : Array UInt32) : Array UInt32 := Id.run do
  let mut s := init
  for _ in [0:10] do
    s := doubleRound s
  let mut out : Array UInt32 := Array.mkEmpty 16
  for i in [0:16] do
    out := out.push (s[i]! + init[i]!)
  return out

/-- Append the 16 words of a block little-endian to `out`. -/
def pushWordsLE (out : ByteArray) (ws : Array UInt32) : ByteArray := Id.run do
  let mut out := out
  for i in [0:16] do
    let w := ws[i]!
    out := out.push w.toUInt8
    out := out.push (w >>> 8).toUInt8
    out := out.push (w >>> 16).toUInt8
    out := out.push (w >>> 24).toUInt8
  return out

/-- The ChaCha20 block function: 64 bytes of keystream for the given block counter.
`key` is zero-padded / truncated to 32 bytes and `nonce` to 12 bytes (callers are
expected to pass exactly those lengths). -/
def chacha20Block (key nonce : Bytes) (counter : UInt32) : Bytes :=
  let ws := chachaCore (chachaInit key.toArray nonce.toArray counter)
  ((pushWordsLE (ByteArray.emptyWithCapacity 64) ws).toList ++ List.replicate 64 0).take 64

theorem chacha20Block_length (key nonce : Bytes) (counter : UInt32) :
    (chacha20Block key nonce counter).length = 64 := by
  rw [chacha20Block, List.length_take, List.length_append, List.length_replicate]
  exact Nat.min_eq_left (Nat.le_add_left _ _)

/-- First `n` bytes of ChaCha20 keystream starting at block counter 1 (the stream that the
AEAD XORs with the plaintext, §2.8). The counter wraps mod 2^32. -/
def chachaKeystream (key nonce : Bytes) (n : Nat) : Bytes :=
  let init := chachaInit key.toArray nonce.toArray 1
  let nblocks := (n + 63) / 64
  let ks : ByteArray := Id.run do
    let mut out := ByteArray.emptyWithCapacity (64 * nblocks)
    let mut ctr : UInt32 := 1
    for _ in [0:nblocks] do
      out := pushWordsLE out (chachaCore (init.set! 12 ctr))
      ctr := ctr + 1
    return out
  -- `ks` already has ≥ n bytes; the padding only makes the length lemma immediate.
  (ks.toList ++ List.replicate n 0).take n

theorem chachaKeystream_length (key nonce : Bytes) (n : Nat) :
    (chachaKeystream key nonce n).length = n := by
  rw [chachaKeystream, List.length_take, List.length_append, List.length_replicate]
  exact Nat.min_eq_left (Nat.le_add_left _ _)

/-! ## Poly1305 (RFC 8439 §2.5) -/

/-- The prime `2^130 - 5`. -/
def poly1305P : Nat := 2 ^ 130 - 5

/-- Clamp mask for `r` (§2.5.1). -/
def poly1305Clamp : Nat := 0x0ffffffc0ffffffc0ffffffc0fffffff

/-- Poly1305 one-time authenticator. `key32` = `r ‖ s` (zero-padded / truncated to 32
bytes; callers are expected to pass exactly 32). Returns the 16-byte tag. -/
def poly1305 (key32 msg : Bytes) : Bytes :=
  let k := key32.toByteArray
  let r := le128AtD k 0 &&& poly1305Clamp
  let s := (le64AtD k 16).toNat + ((le64AtD k 24).toNat <<< 64)
  let m := msg.toByteArray
  let acc : Nat := Id.run do
    let mut acc : Nat := 0
    for j in [0:(m.size + 15) / 16] do
      let len := min 16 (m.size - 16 * j)
      -- little-endian value of the chunk with the extra high bit 2^(8·len)
      let n := le128AtD m (16 * j) + (1 <<< (8 * len))
      acc := ((acc + n) * r) % poly1305P
    return acc
  let t := acc + s
  le128Bytes t.toUInt64 (t >>> 64).toUInt64

theorem poly1305_length (key32 msg : Bytes) : (poly1305 key32 msg).length = 16 := rfl

/-! ## AEAD_CHACHA20_POLY1305 (RFC 8439 §2.8) -/

/-- Zero padding up to the next multiple of 16. -/
def pad16 (n : Nat) : Bytes := List.replicate ((16 - n % 16) % 16) 0

/-- The AEAD tag: Poly1305 under the one-time key (first 32 bytes of block 0) of
`aad ‖ pad16 ‖ ct ‖ pad16 ‖ le64(|aad|) ‖ le64(|ct|)`. -/
def chachaPolyTag (key nonce aad ct : Bytes) : Bytes :=
  let otk := (chacha20Block key nonce 0).take 32
  poly1305 otk
    (aad ++ pad16 aad.length ++ ct ++ pad16 ct.length ++
      le64Bytes aad.length.toUInt64 ++ le64Bytes ct.length.toUInt64)

theorem chachaPolyTag_length (key nonce aad ct : Bytes) :
    (chachaPolyTag key nonce aad ct).length = 16 := rfl

/-- AEAD encryption: `ciphertext ‖ tag`. `none` unless `key` is 32 and `nonce` 12 bytes. -/
def chachaPolySeal (key nonce pt aad : Bytes) : Option Bytes :=
  if key.length = 32 ∧ nonce.length = 12 then
    let ct := List.zipWith (· ^^^ ·) pt (chachaKeystream key nonce pt.length)
    some (ct ++ chachaPolyTag key nonce aad ct)
  else none

/-- AEAD decryption of `ciphertext ‖ tag`. `none` on bad key/nonce size, input shorter
than a tag, or tag mismatch. -/
def chachaPolyOpen (key nonce ctAndTag aad : Bytes) : Option Bytes :=
  if key.length = 32 ∧ nonce.length = 12 ∧ 16 ≤ ctAndTag.length then
    let n := ctAndTag.length - 16
    let ct := ctAndTag.take n
    let tag := ctAndTag.drop n
    if chachaPolyTag key nonce aad ct == tag then
      some (List.zipWith (· ^^^ ·) ct (chachaKeystream key nonce n))
    else none
  else none

/-! ## Known-answer tests (RFC 8439) -/

section KAT

private def hv (c : Char) : UInt8 :=
  if '0' ≤ c ∧ c ≤ '9' then (c.toNat - 48).toUInt8
  else if 'a' ≤ c ∧ c ≤ 'f' then (c.toNat - 87).toUInt8
  else 0

private def hxAux : List Char → Array UInt8 → Array UInt8
  | a :: b :: rest, acc => hxAux rest (acc.push ((hv a <<< 4) ||| hv b))
  | _, acc => acc

/-- Lower-case hex string to bytes (local to the KATs). -/
private def hx (s : String) : Bytes := (hxAux s.toList #[]).toList

private def key0to31 := hx "000102030405060708090a0b0c0d0e0f101112131415161718191a1b1c1d1e1f"

private def sunscreen : Bytes :=
  ("Ladies and Gentlemen of the class of '99: If I could offer you only one tip for " ++
   "the future, sunscreen would be it.").toUTF8.toList

-- §2.1.1 quarter round on (a,b,c,d) = (0,1,2,3)
#guard quarterRound #[0x11111111, 0x01020304, 0x9b8d6f43, 0x01234567] 0 1 2 3
        == #[0xea2a92f4, 0xcb1cf8ce, 0x4581472e, 0x5881c4bb]

-- §2.3.2 block function
#guard chacha20Block key0to31 (hx "000000090000004a00000000") 1 == hx
  ("10f1e7e4d13b5915500fdd1fa32071c4c7d1f4c733c068030422aa9ac3d46c4e" ++
   "d2826446079faa0914c2d705d98b02a2b5129cd1de164eb9cbd083e8a2503c4e")

-- §2.4.2 encryption (initial counter 1)
#guard sunscreen.length == 114
#guard List.zipWith (· ^^^ ·) sunscreen (chachaKeystream key0to31 (hx "000000000000004a00000000") 114) == hx
  ("6e2e359a2568f98041ba0728dd0d6981e97e7aec1d4360c20a27afccfd9fae0b" ++
   "f91b65c5524733ab8f593dabcd62b3571639d624e65152ab8f530c359f0861d8" ++
   "07ca0dbf500d6a6156a38e088a22b65e52bc514d16ccf806818ce91ab7793736" ++
   "5af90bbf74a35be6b40b8eedf2785e42874d")
-- keystream = blocks 1, 2, … concatenated
#guard chachaKeystream key0to31 (hx "000000000000004a00000000") 100 ==
  (chacha20Block key0to31 (hx "000000000000004a00000000") 1 ++
   chacha20Block key0to31 (hx "000000000000004a00000000") 2).take 100
#guard chachaKeystream key0to31 (hx "000000000000004a00000000") 0 == []

-- §2.5.2 Poly1305
#guard poly1305 (hx "85d6be7857556d337f4452fe42d506a80103808afb0db2fd4abff6af4149f51b")
        "Cryptographic Forum Research Group".toUTF8.toList
        == hx "a8061dc1305136c6c22b8baf0c0127a9"
-- A.3 #1 (all zero) and A.3 #5 / #6 (carry edge cases: 2^130-5 wrap, s + acc overflow)
#guard poly1305 (List.replicate 32 0) (List.replicate 64 0) == List.replicate 16 0
#guard poly1305 (hx "0200000000000000000000000000000000000000000000000000000000000000")
        (hx "ffffffffffffffffffffffffffffffff") == hx "03000000000000000000000000000000"
#guard poly1305 (hx "02000000000000000000000000000000ffffffffffffffffffffffffffffffff")
        (hx "02000000000000000000000000000000") == hx "03000000000000000000000000000000"

-- §2.6.2 one-time key generation
#guard (chacha20Block (hx "808182838485868788898a8b8c8d8e8f909192939495969798999a9b9c9d9e9f")
          (hx "000000000001020304050607") 0).take 32
        == hx "8ad5a08b905f81cc815040274ab29471a833b637e3fd0da508dbb8e2fdd1a646"

-- §2.8.2 AEAD
private def k28 := hx "808182838485868788898a8b8c8d8e8f909192939495969798999a9b9c9d9e9f"
private def n28 := hx "070000004041424344454647"
private def a28 := hx "50515253c0c1c2c3c4c5c6c7"
private def c28 := hx
  ("d31a8d34648e60db7b86afbc53ef7ec2a4aded51296e08fea9e2b5a736ee62d6" ++
   "3dbea45e8ca9671282fafb69da92728b1a71de0a9e060b2905d6a5b67ecd3b36" ++
   "92ddbd7f2d778b8c9803aee328091b58fab324e4fad675945585808b4831d7bc" ++
   "3ff4def08e4b7a9de576d26586cec64b6116")
private def t28 := hx "1ae10b594f09e26a7e902ecbd0600691"

#guard chachaPolyTag k28 n28 a28 c28 == t28
#guard chachaPolySeal k28 n28 sunscreen a28 == some (c28 ++ t28)
#guard chachaPolyOpen k28 n28 (c28 ++ t28) a28 == some sunscreen

-- A.5 decryption
private def kA5 := hx "1c9240a5eb55d38af333888604f6b5f0473917c1402b80099dca5cbc207075c0"
private def nA5 := hx "000000000102030405060708"
private def aA5 := hx "f33388860000000000004e91"
private def cA5 := hx
  ("64a0861575861af460f062c79be643bd5e805cfd345cf389f108670ac76c8cb2" ++
   "4c6cfc18755d43eea09ee94e382d26b0bdb7b73c321b0100d4f03b7f355894cf" ++
   "332f830e710b97ce98c8a84abd0b948114ad176e008d33bd60f982b1ff37c855" ++
   "9797a06ef4f0ef61c186324e2b3506383606907b6a7c02b0f9f6157b53c867e4" ++
   "b9166c767b804d46a59b5216cde7a4e99040c5a40433225ee282a1b0a06c523e" ++
   "af4534d7f83fa1155b0047718cbc546a0d072b04b3564eea1b422273f548271a" ++
   "0bb2316053fa76991955ebd63159434ecebb4e466dae5a1073a6727627097a10" ++
   "49e617d91d361094fa68f0ff77987130305beaba2eda04df997b714d6c6f2c29" ++
   "a6ad5cb4022b02709b")
private def tA5 := hx "eead9d67890cbb22392336fea1851f38"
private def pA5 : Bytes :=
  ("Internet-Drafts are draft documents valid for a maximum of six months and may be " ++
   "updated, replaced, or obsoleted by other documents at any time. It is inappropriate " ++
   "to use Internet-Drafts as reference material or to cite them other than as " ++
   "/“work in progress./”").toUTF8.toList

#guard cA5.length == 265 && pA5.length == 265
#guard chachaPolyOpen kA5 nA5 (cA5 ++ tA5) aA5 == some pA5
#guard chachaPolySeal kA5 nA5 pA5 aA5 == some (cA5 ++ tA5)

-- Rejections
#guard chachaPolyOpen kA5 nA5 (cA5 ++ tA5) (aA5 ++ [0]) == none
#guard chachaPolyOpen kA5 nA5 ((cA5.set 3 0) ++ tA5) aA5 == none
#guard chachaPolyOpen kA5 nA5 (cA5 ++ tA5.set 15 0) aA5 == none
#guard chachaPolyOpen kA5 nA5 (tA5.take 15) aA5 == none
#guard chachaPolySeal (kA5.take 31) nA5 [] [] == none
#guard chachaPolySeal kA5 (nA5 ++ [0]) [] [] == none
#guard chachaPolyOpen kA5 (nA5.take 8) (cA5 ++ tA5) aA5 == none

end KAT

end Cose.Crypto
