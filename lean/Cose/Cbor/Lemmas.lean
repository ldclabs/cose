import Cose.Cbor.HeadLemmas
/-!
# Round trip of the deterministic encoding

`decode_encode`: for a value `v` with `WF v` and any following bytes `r`, `decode f d (encode v ++ r) = some (v, r)` for
any fuel `f ≥ size v` and any depth budget `d ≥ depth v`.  The file defines the terms of that statement (`WF`, `size`,
`depth`); the proof reads each head through `decHead_encode`.  Injectivity and independence from the order of map entries
follow in `Cbor/Corollaries.lean`.
-/
namespace Cose.Cbor

def two64 : Nat := 18446744073709551616

mutual
  /-- fuel needed to decode -/
  def size : Cbor → Nat
    | .arr xs => 1 + sizeList xs
    | .map kvs => 1 + sizePairs kvs
    | .tag _ v => 1 + size v
    | _ => 1
  def sizeList : List Cbor → Nat
    | [] => 1
    | x :: xs => 1 + size x + sizeList xs
  def sizePairs : List (Cbor × Cbor) → Nat
    | [] => 1
    | (k, v) :: r => 1 + size k + size v + sizePairs r
end

def isTag : Cbor → Bool
  | .tag _ _ => true
  | _ => false

mutual
  /-- nesting depth as fxamacker counts it: arrays and maps one level each; of a run of consecutive tags every tag
      but the first -/
  def depth : Cbor → Nat
    | .arr xs => 1 + depthList xs
    | .map kvs => 1 + depthPairs kvs
    | .tag _ v => (if isTag v then 1 else 0) + depth v
    | _ => 0
  def depthList : List Cbor → Nat
    | [] => 0
    | x :: xs => max (depth x) (depthList xs)
  def depthPairs : List (Cbor × Cbor) → Nat
    | [] => 0
    | (k, v) :: r => max (max (depth k) (depth v)) (depthPairs r)
end

/-- strictly increasing encoded keys (RFC 8949 §4.2.1 bytewise lexicographic order, no duplicates) -/
def KeysSorted (kvs : List (Cbor × Cbor)) : Prop :=
  (encodePairs kvs).Pairwise (fun a b => bytesLt a.1 b.1 = true)

mutual
  /-- well-formed, canonical, inside the modelled universe -/
  def WF : Cbor → Prop
    | .uint n => n < two64
    | .nint n => n < two64
    | .bstr b => b.length < two64
    | .tstr b => b.length < two64 ∧ validUtf8 b = true
    | .arr xs => xs.length ≤ maxElems ∧ WFList xs
    | .map kvs => kvs.length ≤ maxElems ∧ WFPairs kvs ∧ KeysSorted kvs ∧ kvs.all (fun kv => hashableKey kv.1) = true
    | .tag t v => t < two64 ∧ WF v ∧ tagContentOk t v = true
    | .simple n => n < 24 ∨ (32 ≤ n ∧ n < 256)
    | .float _ _ => False
  def WFList : List Cbor → Prop
    | [] => True
    | x :: xs => WF x ∧ WFList xs
  def WFPairs : List (Cbor × Cbor) → Prop
    | [] => True
    | (k, v) :: r => WF k ∧ WF v ∧ WFPairs r
end

theorem take_append_len {α} (a b : List α) : (a ++ b).take a.length = a := List.take_append_length
theorem drop_append_len {α} (a b : List α) : (a ++ b).drop a.length = b := List.drop_append_length

theorem bytesLt_iff {a b : Bytes} : bytesLt a b = true ↔ bytesLe a b = true ∧ a ≠ b := by simp [bytesLt]

theorem encodePairs_eq_map : ∀ kvs : List (Cbor × Cbor), encodePairs kvs = kvs.map (fun kv => (encode kv.1, encode kv.2))
  | [] => by rw [encodePairs]; rfl
  | (k, v) :: r => by rw [encodePairs, encodePairs_eq_map r]; rfl

theorem nodupKeys_of_sorted {kvs : List (Cbor × Cbor)} (h : KeysSorted kvs) : nodupKeys kvs = true := by
  rw [KeysSorted, encodePairs_eq_map, List.pairwise_map] at h
  exact decide_eq_true (List.pairwise_map.mpr (h.imp fun hab => (bytesLt_iff.1 hab).2))

theorem encode_map_sorted {kvs : List (Cbor × Cbor)} (h : KeysSorted kvs) :
    encode (.map kvs) = head 5 kvs.length ++ flattenPairs (encodePairs kvs) := by
  simp only [encode]
  rw [List.mergeSort_of_pairwise (le := entryLe) (h.imp fun hab => (bytesLt_iff.1 hab).1)]

theorem keysSorted_tail {a : Cbor × Cbor} {r : List (Cbor × Cbor)} (h : KeysSorted (a :: r)) : KeysSorted r := by
  obtain ⟨k, v⟩ := a
  unfold KeysSorted at *
  simp only [encodePairs] at h
  exact (List.pairwise_cons.mp h).2

theorem size_pos (v : Cbor) : 1 ≤ size v := by cases v <;> simp only [size] <;> omega
theorem sizeList_pos (xs : List Cbor) : 1 ≤ sizeList xs := by cases xs <;> simp only [sizeList] <;> omega
theorem sizePairs_pos (kvs : List (Cbor × Cbor)) : 1 ≤ sizePairs kvs := by
  rcases kvs with _ | ⟨⟨k, v⟩, r⟩ <;> simp only [sizePairs] <;> omega

theorem lt_two64_of_le_maxElems {n : Nat} (h : n ≤ maxElems) : n < 18446744073709551616 :=
  Nat.lt_of_le_of_lt h (by decide)

theorem ofInt_of_nonneg {v : Int} (h : 0 ≤ v) : Cbor.ofInt v = .uint v.toNat := if_pos h

theorem ofInt_of_neg {v : Int} (h : v < 0) : Cbor.ofInt v = .nint (-1 - v).toNat := if_neg (Int.not_le.mpr h)

theorem wf_ofInt (v : Int) (h : -9223372036854775808 ≤ v ∧ v < 18446744073709551616) : WF (Cbor.ofInt v) := by
  unfold Cbor.ofInt
  split <;> simp only [WF, two64] <;> omega

theorem depth_ofInt (v : Int) : depth (Cbor.ofInt v) = 0 := by
  unfold Cbor.ofInt; split <;> rfl

theorem hashable_ofInt (v : Int) : hashableKey (Cbor.ofInt v) = true := by
  unfold Cbor.ofInt; split <;> rfl

theorem encode_ofInt_length_le (v : Int) : (encode (Cbor.ofInt v)).length ≤ 9 := by
  unfold Cbor.ofInt; split <;> exact (head_length_bounds _ _).2

@[simp] def Cbor.mt : Cbor → Nat
  | .uint _ => 0 | .nint _ => 1 | .bstr _ => 2 | .tstr _ => 3 | .arr _ => 4 | .map _ => 5 | .tag _ _ => 6
  | .simple _ => 7 | .float _ _ => 7

@[simp] def Cbor.arg : Cbor → Nat
  | .uint n => n | .nint n => n | .bstr b => b.length | .tstr b => b.length | .arr xs => xs.length
  | .map kvs => kvs.length | .tag t _ => t | .simple n => n | .float ai _ => ai

/-- what follows the head; for a map, the entries as given (a well-formed map has them in order) -/
@[simp] def Cbor.body : Cbor → Bytes
  | .bstr b => b | .tstr b => b | .arr xs => encodeList xs | .map kvs => flattenPairs (encodePairs kvs)
  | .tag _ v => encode v | _ => []

theorem encode_eq {v : Cbor} (hw : WF v) : encode v = head v.mt v.arg ++ v.body := by
  cases v with
  | map kvs => exact encode_map_sorted hw.2.2.1
  | float _ _ => exact hw.elim
  | uint _ | nint _ | simple _ => exact (List.append_nil _).symm
  | _ => rfl

theorem arg_lt {v : Cbor} (hw : WF v) : v.arg < 18446744073709551616 := by
  cases v with
  | arr xs => exact lt_two64_of_le_maxElems hw.1
  | map kvs => exact lt_two64_of_le_maxElems hw.1
  | tstr b => exact hw.1
  | tag t _ => exact hw.1
  | simple n => have : n < 24 ∨ (32 ≤ n ∧ n < 256) := hw; show n < _; omega
  | float _ _ => exact hw.elim
  | _ => exact hw

theorem decHead_encode {v : Cbor} (hw : WF v) (r : Bytes) :
    decHead (encode v ++ r) = some (v.mt, aiOf v.arg, v.arg, v.body ++ r) := by
  rw [encode_eq hw, List.append_assoc]
  exact decHead_head _ _ _ (by cases v <;> simp) (arg_lt hw)

theorem aiOf_simple {n : Nat} (h : WF (.simple n)) : aiOf n < 24 ∨ aiOf n = 24 ∧ 32 ≤ n := by
  unfold aiOf
  rcases (h : n < 24 ∨ (32 ≤ n ∧ n < 256)) with h | ⟨h1, h2⟩
  · exact .inl (by rw [if_pos h]; exact h)
  · exact .inr ⟨by rw [if_neg (by omega), if_pos h2], h1⟩

theorem isTagHead_encode (w : Cbor) (hw : WF w) (r : Bytes) : isTagHead (encode w ++ r) = isTag w := by
  rw [isTagHead, decHead_encode hw r]
  cases w <;> rfl

theorem decode_tag {bs r r' : Bytes} {f d t ai : Nat} {v : Cbor} (h : decHead bs = some (6, ai, t, r))
    (hv : decode f d r = some (v, r')) (hc : tagContentOk t v = true) :
    decode (f + 1) ((if isTagHead r then 1 else 0) + d) bs = some (.tag t v, r') := by
  cases hit : isTagHead r <;> simp [decode, h, hit, hv, hc]

mutual
  theorem decode_encode (v : Cbor) (hw : WF v) (f d : Nat) (r : Bytes)
      (hf : size v ≤ f) (hd : depth v ≤ d) : decode f d (encode v ++ r) = some (v, r) := by
    obtain ⟨f, rfl⟩ := Nat.exists_eq_add_of_le' (Nat.le_trans (size_pos v) hf)
    have hh := decHead_encode hw r
    match v with
    | .uint _ | .nint _ | .bstr _ => simp [decode, hh]
    | .tstr b => simp [decode, hh, hw.2]
    | .arr xs =>
      simp only [size] at hf
      simp only [depth] at hd
      have hd0 : ¬ d = 0 := by omega
      have hn : ¬ xs.length > maxElems := Nat.not_lt.2 hw.1
      simp [decode, hh, hd0, hn, decodeList_encodeList xs hw.2 f (d - 1) r (by omega) (by omega)]
    | .map kvs =>
      obtain ⟨hlen, hwp, hsorted, hhash⟩ := hw
      simp only [size] at hf
      simp only [depth] at hd
      have hd0 : ¬ d = 0 := by omega
      have hn : ¬ kvs.length > maxElems := Nat.not_lt.2 hlen
      simp [decode, hh, hd0, hn, nodupKeys_of_sorted hsorted, hhash,
        decodePairs_encodePairs kvs hwp f (d - 1) r (by omega) (by omega)]
    | .tag t w =>
      obtain ⟨-, hww, hcontent⟩ := hw
      simp only [size] at hf
      simp only [depth] at hd
      obtain ⟨d, rfl⟩ : ∃ d', d = (if isTag w then 1 else 0) + d' := ⟨d - (if isTag w then 1 else 0), by omega⟩
      -- `decode_tag` counts the level by the head that follows, which is a tag head exactly when `w` is a tag
      rw [← isTagHead_encode w hww r]
      exact decode_tag hh (decode_encode w hww f d r (by omega) (by omega)) hcontent
    | .simple n => rcases aiOf_simple hw with h | ⟨h1, h2⟩ <;> simp [decode, *]
    | .float _ _ => exact hw.elim
  theorem decodeList_encodeList (xs : List Cbor) (hw : WFList xs) (f d : Nat) (r : Bytes)
      (hf : sizeList xs ≤ f) (hd : depthList xs ≤ d) :
      decodeList f d xs.length (encodeList xs ++ r) = some (xs, r) := by
    obtain ⟨f, rfl⟩ := Nat.exists_eq_add_of_le' (Nat.le_trans (sizeList_pos xs) hf)
    match xs with
    | [] => simp [decodeList, encodeList]
    | x :: xs =>
      simp only [sizeList] at hf
      obtain ⟨hdx, hdr⟩ := Nat.max_le.mp hd
      simp only [encodeList, List.length_cons, decodeList, List.append_assoc,
        decode_encode x hw.1 f d _ (by omega) hdx, decodeList_encodeList xs hw.2 f d r (by omega) hdr]
  theorem decodePairs_encodePairs (kvs : List (Cbor × Cbor)) (hw : WFPairs kvs) (f d : Nat) (r : Bytes)
      (hf : sizePairs kvs ≤ f) (hd : depthPairs kvs ≤ d) :
      decodePairs f d kvs.length (flattenPairs (encodePairs kvs) ++ r) = some (kvs, r) := by
    obtain ⟨f, rfl⟩ := Nat.exists_eq_add_of_le' (Nat.le_trans (sizePairs_pos kvs) hf)
    match kvs with
    | [] => simp [decodePairs, encodePairs, flattenPairs]
    | (k, v) :: kvs =>
      obtain ⟨hwk, hwv, hwr⟩ := hw
      simp only [sizePairs] at hf
      obtain ⟨hdkv, hdr⟩ := Nat.max_le.mp hd
      obtain ⟨hdk, hdv⟩ := Nat.max_le.mp hdkv
      simp only [encodePairs, flattenPairs, List.length_cons, decodePairs, List.append_assoc,
        decode_encode k hwk f d _ (by omega) hdk, decode_encode v hwv f d _ (by omega) hdv,
        decodePairs_encodePairs kvs hwr f d r (by omega) hdr]
end

end Cose.Cbor
