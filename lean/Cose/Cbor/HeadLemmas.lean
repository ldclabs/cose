import Cose.Cbor.Decode
/-!
The head of an item (RFC 8949 §3: the initial octet `mt * 32 + ai` and the argument that follows it).  `decHead` is
evaluated once per value of the additional information (`decHead_imm`, `decHead_1` … `decHead_8`, `decHead_reserved`);
`decHead_head`: the decoder reads back the head the encoder wrote; `head_shortest`: the length of `head`.

`decHead_4` and `decHead_8` state the argument in Horner form, which is what `be_step` rebuilds from the octets of `head`;
the decoder's own sum of digits times powers of 256 is multiplied out in their proofs.
-/
namespace Cose.Cbor

theorem u8_toNat {n : Nat} (h : n < 256) : (u8 n).toNat = n := UInt8.toNat_ofNat_of_lt' h

theorem u8_mod_toNat (n : Nat) : (u8 (n % 256)).toNat = n % 256 := u8_toNat (Nat.mod_lt _ (by decide))

theorem initial_toNat {mt a : Nat} (hmt : mt < 8) (ha : a < 32) :
    (u8 (mt * 32 + a)).toNat / 32 = mt ∧ (u8 (mt * 32 + a)).toNat % 32 = a := by
  rw [u8_toNat (by omega)]; omega

theorem decHead_imm {b : UInt8} (h : b.toNat % 32 < 24) (r : Bytes) :
    decHead (b :: r) = some (b.toNat / 32, b.toNat % 32, b.toNat % 32, r) := if_pos h

theorem decHead_1 {b : UInt8} (h : b.toNat % 32 = 24) (x : UInt8) (r : Bytes) :
    decHead (b :: x :: r) = some (b.toNat / 32, 24, x.toNat, r) := by
  show (if b.toNat % 32 < 24 then _ else _) = _
  rw [h]; rfl

theorem decHead_2 {b : UInt8} (h : b.toNat % 32 = 25) (x1 x0 : UInt8) (r : Bytes) :
    decHead (b :: x1 :: x0 :: r) = some (b.toNat / 32, 25, x1.toNat * 256 + x0.toNat, r) := by
  show (if b.toNat % 32 < 24 then _ else _) = _
  rw [h]; rfl

theorem decHead_4 {b : UInt8} (h : b.toNat % 32 = 26) (x3 x2 x1 x0 : UInt8) (r : Bytes) :
    decHead (b :: x3 :: x2 :: x1 :: x0 :: r) =
      some (b.toNat / 32, 26, ((x3.toNat * 256 + x2.toNat) * 256 + x1.toNat) * 256 + x0.toNat, r) := by
  show (if b.toNat % 32 < 24 then _ else _) = _
  rw [h, if_neg (by decide), if_neg (by decide), if_neg (by decide), if_pos rfl]
  simp only [Nat.add_mul, Nat.mul_assoc, Nat.reduceMul]

theorem decHead_8 {b : UInt8} (h : b.toNat % 32 = 27) (x7 x6 x5 x4 x3 x2 x1 x0 : UInt8) (r : Bytes) :
    decHead (b :: x7 :: x6 :: x5 :: x4 :: x3 :: x2 :: x1 :: x0 :: r) =
      some (b.toNat / 32, 27, ((((((x7.toNat * 256 + x6.toNat) * 256 + x5.toNat) * 256 + x4.toNat) * 256 + x3.toNat) * 256
        + x2.toNat) * 256 + x1.toNat) * 256 + x0.toNat, r) := by
  show (if b.toNat % 32 < 24 then _ else _) = _
  rw [h, if_neg (by decide), if_neg (by decide), if_neg (by decide), if_neg (by decide), if_pos rfl]
  simp only [Nat.add_mul, Nat.mul_assoc, Nat.reduceMul]

/-- additional information 28–30 (reserved) and 31 (indefinite length) -/
theorem decHead_reserved {b : UInt8} (h : 28 ≤ b.toNat % 32) (r : Bytes) : decHead (b :: r) = none := by
  show (if b.toNat % 32 < 24 then _ else if b.toNat % 32 = 24 then _ else if b.toNat % 32 = 25 then _
    else if b.toNat % 32 = 26 then _ else if b.toNat % 32 = 27 then _ else none) = none
  generalize b.toNat % 32 = a at h ⊢
  rw [if_neg (by omega), if_neg (by omega), if_neg (by omega), if_neg (by omega), if_neg (by omega)]

/-- one more big-endian digit; with a literal for `a`, `rw [be_step n 65536]` finds `n / 16777216` in the goal, the
    product `65536 * 256` being evaluated when the two are unified -/
theorem be_step (n a : Nat) : n / (a * 256) * 256 + n / a % 256 = n / a := by
  rw [← Nat.div_div_eq_div_mul]; exact Nat.div_add_mod' _ _

/-- additional information chosen by the shortest-form head -/
def aiOf (n : Nat) : Nat :=
  if n < 24 then n else if n < 256 then 24 else if n < 65536 then 25 else if n < 4294967296 then 26 else 27

/-- the bound is a literal because `two64` is defined downstream, with `WF` -/
theorem decHead_head (mt n : Nat) (r : Bytes) (hmt : mt < 8) (hn : n < 18446744073709551616) :
    decHead (head mt n ++ r) = some (mt, aiOf n, n, r) := by
  unfold aiOf
  by_cases h0 : n < 24
  · obtain ⟨e1, e2⟩ := initial_toNat (a := n) hmt (by omega)
    simp only [head, h0, if_true, List.cons_append, List.nil_append]
    rw [decHead_imm (by rw [e2]; exact h0), e1, e2]
  by_cases h1 : n < 256
  · obtain ⟨e1, e2⟩ := initial_toNat (a := 24) hmt (by decide)
    simp only [head, h0, h1, if_true, if_false, List.cons_append, List.nil_append, decHead_1 e2, e1, u8_toNat h1]
  by_cases h2 : n < 65536
  · obtain ⟨e1, e2⟩ := initial_toNat (a := 25) hmt (by decide)
    simp only [head, h0, h1, h2, if_true, if_false, List.cons_append, List.nil_append, decHead_2 e2, e1,
      u8_toNat (Nat.div_lt_of_lt_mul (show n < 256 * 256 from h2)), u8_mod_toNat, Nat.div_add_mod']
  by_cases h3 : n < 4294967296
  · obtain ⟨e1, e2⟩ := initial_toNat (a := 26) hmt (by decide)
    simp only [head, h0, h1, h2, h3, if_true, if_false, List.cons_append, List.nil_append, decHead_4 e2, e1,
      u8_toNat (Nat.div_lt_of_lt_mul (show n < 16777216 * 256 from h3)), u8_mod_toNat]
    rw [be_step n 65536, be_step n 256, Nat.div_add_mod']
  · obtain ⟨e1, e2⟩ := initial_toNat (a := 27) hmt (by decide)
    simp only [head, h0, h1, h2, h3, if_false, List.cons_append, List.nil_append, decHead_8 e2, e1,
      u8_toNat (Nat.div_lt_of_lt_mul (show n < 72057594037927936 * 256 from hn)), u8_mod_toNat]
    rw [be_step n 281474976710656, be_step n 1099511627776, be_step n 4294967296, be_step n 16777216, be_step n 65536,
      be_step n 256, Nat.div_add_mod']

theorem head_shortest (mt n : Nat) :
    (head mt n).length =
      if n < 24 then 1 else if n < 256 then 2 else if n < 65536 then 3 else if n < 4294967296 then 5 else 9 := by
  by_cases h0 : n < 24; · simp only [head, h0, if_true]; rfl
  by_cases h1 : n < 256; · simp only [head, h0, h1, if_true, if_false]; rfl
  by_cases h2 : n < 65536; · simp only [head, h0, h1, h2, if_true, if_false]; rfl
  by_cases h3 : n < 4294967296; · simp only [head, h0, h1, h2, h3, if_true, if_false]; rfl
  simp only [head, h0, h1, h2, h3, if_false]; rfl

theorem encode_arr_first (xs : List Cbor) (h : xs.length < 24) :
    ∃ rest, encode (.arr xs) = u8 (4 * 32 + xs.length) :: rest := by
  simp only [encode, head, h, if_true]
  exact ⟨_, rfl⟩

theorem head_length_bounds (mt n : Nat) : 0 < (head mt n).length ∧ (head mt n).length ≤ 9 := by
  rw [head_shortest]; repeat' split
  all_goals decide

theorem head_length_pos (mt n : Nat) : 0 < (head mt n).length := (head_length_bounds mt n).1

theorem head_ne_nil (mt n : Nat) : head mt n ≠ [] :=
  List.ne_nil_of_length_pos (head_length_pos mt n)

theorem encode_ne_nil (v : Cbor) : encode v ≠ [] := by
  cases v with
  | float ai bits => rw [encode]; split <;> (try split) <;> exact List.cons_ne_nil _ _
  | _ => simp only [encode, ne_eq, List.append_eq_nil_iff, head_ne_nil, false_and, not_false_eq_true]

end Cose.Cbor
