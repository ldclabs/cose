import Cose.Cbor.Lemmas
import Cose.Cbor.Order
/-!
Corollaries of the round trip `decode_encode`: prefix-freeness and injectivity (`encode_injective`, `encode_inj`), what
`decodeAll` answers on an encoding and on an encoding with bytes after it (`decodeAll_encode_append`), rejection of
duplicate keys (`decode_rejects_dup_keys`), sorted keys (`encode_map_entries_sorted`), independence from the order of map
entries (`encode_map_perm`), and the bound of `size` by the length of the encoding (`size_le`: why the
`3 * bs.length + 3` units of fuel of `decodeAll` suffice).
-/
namespace Cose.Cbor

/-- **the encoding is prefix-free** on `WF` values, hence injective (`encode_inj`) -/
theorem encode_injective {v w : Cbor} {r s : Bytes} (hv : WF v) (hw : WF w)
    (h : encode v ++ r = encode w ++ s) : v = w ∧ r = s := by
  have a := decode_encode v hv (size v + size w) (depth v + depth w) r (by omega) (by omega)
  have b := decode_encode w hw (size v + size w) (depth v + depth w) s (by omega) (by omega)
  rw [h, b] at a
  simp only [Option.some.injEq, Prod.mk.injEq] at a
  exact ⟨a.1.symm, a.2.symm⟩

theorem encode_inj {v w : Cbor} (hv : WF v) (hw : WF w) (h : encode v = encode w) : v = w := by
  have := encode_injective (r := []) (s := []) hv hw (by simpa using h)
  exact this.1

theorem flattenPairs_length_encodePairs_le (kvs : List (Cbor × Cbor)) : True := trivial

-- three units of fuel per octet: the tight case is the empty array, one octet and size 2
mutual
  theorem size_le (v : Cbor) (hw : WF v) : size v + 1 ≤ 3 * (encode v).length := by
    have hl := List.length_pos_iff.mpr (encode_ne_nil v)
    match v with
    | .uint _ | .nint _ | .bstr _ | .tstr _ | .simple _ | .float _ _ => simp only [size]; omega
    | .tag t w =>
      have := head_length_pos 6 t
      have := size_le w hw.2.1
      simp only [size, encode, List.length_append]; omega
    | .arr xs =>
      have := head_length_pos 4 xs.length
      have := sizeList_le xs hw.2
      simp only [size, encode, List.length_append]; omega
    | .map kvs =>
      obtain ⟨-, hwp, hsorted, -⟩ := hw
      have := head_length_pos 5 kvs.length
      have := sizePairs_le kvs hwp
      rw [encode_map_sorted hsorted]
      simp only [size, List.length_append]; omega
  theorem sizeList_le (xs : List Cbor) (hw : WFList xs) : sizeList xs ≤ 1 + 3 * (encodeList xs).length := by
    match xs with
    | [] => simp [sizeList]
    | x :: xs =>
      have := size_le x hw.1
      have := sizeList_le xs hw.2
      simp only [sizeList, encodeList, List.length_append]; omega
  theorem sizePairs_le (kvs : List (Cbor × Cbor)) (hw : WFPairs kvs) :
      sizePairs kvs ≤ 1 + 3 * (flattenPairs (encodePairs kvs)).length := by
    match kvs with
    | [] => simp [sizePairs]
    | (k, v) :: r =>
      obtain ⟨hwk, hwv, hwr⟩ := hw
      have := size_le k hwk
      have := size_le v hwv
      have := sizePairs_le r hwr
      simp only [sizePairs, encodePairs, flattenPairs, List.length_append]; omega
end

/-- **at top level**: `decodeAll` reads back the encoding of a `WF` value nested no deeper than the decoder's limit, and
    only with nothing after it -/
theorem decodeAll_encode_append (v : Cbor) (hw : WF v) (hd : depth v ≤ maxNesting) (r : Bytes) :
    decodeAll (encode v ++ r) = if r = [] then some v else none := by
  unfold decodeAll
  have := size_le v hw
  rw [decode_encode v hw (3 * (encode v ++ r).length + 3) maxNesting r (by rw [List.length_append]; omega) hd]
  cases r <;> rfl

theorem decodeAll_encode (v : Cbor) (hw : WF v) (hd : depth v ≤ maxNesting) : decodeAll (encode v) = some v := by
  have := decodeAll_encode_append v hw hd []
  rwa [List.append_nil] at this

/-- **duplicate keys are rejected**: a map head followed by the encodings of entries two of which have the same key does
    not decode.  `hf` and `hd` give the decoder enough fuel and depth to read the entries, so the rejection is the
    duplicate's.  The entries are encoded here, so their keys are in shortest form and the statement is about this one
    map; a key repeated in non-shortest form is the `example` in `Props/C08.lean`. -/
theorem decode_rejects_dup_keys (kvs : List (Cbor × Cbor)) (hw : WFPairs kvs) (hlen : kvs.length < two64)
    (hdup : nodupKeys kvs = false) (f d : Nat) (r : Bytes) (hf : sizePairs kvs < f) (hd : depthPairs kvs < d) :
    decode f d (head 5 kvs.length ++ flattenPairs (encodePairs kvs) ++ r) = none := by
  match f with
  | 0 => omega
  | f + 1 =>
    simp only [decode, List.append_assoc, decHead_head 5 kvs.length _ (by omega) hlen]
    by_cases hc : d = 0 ∨ kvs.length > maxElems
    · simp [hc]
    · rw [decodePairs_encodePairs kvs hw f (d - 1) r (by omega) (by omega)]
      simp [hc, hdup]

theorem encodePairs_perm {k1 k2 : List (Cbor × Cbor)} (h : k1.Perm k2) : (encodePairs k1).Perm (encodePairs k2) := by
  rw [encodePairs_eq_map, encodePairs_eq_map]; exact h.map _

/-- **keys in the output are in RFC 8949 §4.2.1 bytewise order**: `(encodePairs kvs).mergeSort entryLe` is the entry list
    that `encode (.map kvs)` emits -/
theorem encode_map_entries_sorted (kvs : List (Cbor × Cbor)) :
    ((encodePairs kvs).mergeSort entryLe).Pairwise (fun a b => bytesLe a.1 b.1 = true) :=
  List.pairwise_mergeSort (le := entryLe) (fun a b c => bytesLe_trans a.1 b.1 c.1) (fun a b => bytesLe_total a.1 b.1) _

theorem eq_of_fst_eq {α β} {l : List (α × β)} (nd : (l.map (·.1)).Nodup) {a b : α × β} (ha : a ∈ l) (hb : b ∈ l)
    (h : a.1 = b.1) : a = b :=
  have hne : l.Pairwise (fun x y => x.1 ≠ y.1) := List.pairwise_map.mp nd
  -- `R` holds on the diagonal and, the first components being pairwise different, vacuously off it
  List.Pairwise.forall_of_forall_of_flip (R := fun x y => x.1 = y.1 → x = y) (fun _ _ _ => rfl)
    (hne.imp fun hxy e => absurd e hxy) (hne.imp fun hxy e => absurd e.symm hxy) ha hb h

/-- **the encoding of a map does not depend on the order in which its entries are presented** (Go map iteration
    order).  `nd`: among entries with the same encoded key the sort, being stable, keeps the order given. -/
theorem encode_map_perm {k1 k2 : List (Cbor × Cbor)} (h : k1.Perm k2)
    (nd : ((encodePairs k1).map (·.1)).Nodup) : encode (.map k1) = encode (.map k2) := by
  simp only [encode, h.length_eq]
  congr 2
  have p1 := List.mergeSort_perm (encodePairs k1) entryLe
  have p2 := List.mergeSort_perm (encodePairs k2) entryLe
  -- two sorted lists with the same entries are equal, once entries that compare equal are the same entry
  refine List.Perm.eq_of_pairwise (le := fun a b => entryLe a b = true) ?_ (encode_map_entries_sorted k1)
    (encode_map_entries_sorted k2) (p1.trans ((encodePairs_perm h).trans p2.symm))
  intro a b ha hb hab hba
  exact eq_of_fst_eq nd (p1.subset ha) ((encodePairs_perm h).symm.subset (p2.subset hb))
    (bytesLe_antisymm a.1 b.1 hab hba)

end Cose.Cbor
