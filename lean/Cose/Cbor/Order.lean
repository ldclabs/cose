import Cose.Cbor.Encode
/-! `bytesLe` is the lexicographic order `≤` of `List UInt8`, hence a total order. -/
namespace Cose.Cbor

theorem bytesLe_iff : ∀ a b : Bytes, bytesLe a b = true ↔ a ≤ b
  | [], _ => by simp [bytesLe]
  | _ :: _, [] => by simp [bytesLe]
  | x :: xs, y :: ys => by
    rw [bytesLe, List.cons_le_cons_iff, ← bytesLe_iff xs ys]
    by_cases h1 : x < y
    · simp [h1]
    · by_cases h2 : y < x
      · have : x ≠ y := fun e => by subst e; exact h1 h2
        simp [h1, h2, this]
      · have : x = y := UInt8.le_antisymm (UInt8.not_lt.mp h2) (UInt8.not_lt.mp h1)
        simp [this]

theorem bytesLe_refl : ∀ a : Bytes, bytesLe a a = true := fun a => (bytesLe_iff a a).2 (List.le_refl a)

theorem bytesLe_total (a b : Bytes) : (bytesLe a b || bytesLe b a) = true := by
  rw [Bool.or_eq_true, bytesLe_iff, bytesLe_iff]; exact List.le_total a b

theorem bytesLe_antisymm (a b : Bytes) (h1 : bytesLe a b = true) (h2 : bytesLe b a = true) : a = b :=
  List.le_antisymm ((bytesLe_iff a b).1 h1) ((bytesLe_iff b a).1 h2)

theorem bytesLe_trans (a b c : Bytes) (h1 : bytesLe a b = true) (h2 : bytesLe b c = true) : bytesLe a c = true :=
  (bytesLe_iff a c).2 (List.le_trans ((bytesLe_iff a b).1 h1) ((bytesLe_iff b c).1 h2))

end Cose.Cbor
