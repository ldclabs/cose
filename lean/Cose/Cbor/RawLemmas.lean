import Cose.Cbor.Raw
import Cose.Cbor.Lemmas
import Cose.Cbor.Corollaries
/-!
# Raw item boundaries of an encoding

On encodings of `WF` values: `skipItem` walks over exactly one item (`skipItem_encode`), `takeItems` cuts a sequence into
the encodings of its members (`takeItems_encodeList_all`), and `rawArrayElems` of an array, bare or under one tag, is the
list of its members' encodings (`rawArrayElems_encode_arr`, `rawArrayElems_tagged`).  These are the facts the first-byte
dispatch of `Recipient` / `SuppPubInfo` / `KDFContext` decoding is stated over.
-/
namespace Cose.Cbor

mutual
  theorem skipItem_encode (v : Cbor) (hw : WF v) (f : Nat) (r : Bytes) (hf : size v ≤ f) :
      skipItem f (encode v ++ r) = some r := by
    obtain ⟨f, rfl⟩ := Nat.exists_eq_add_of_le' (Nat.le_trans (size_pos v) hf)
    have hh := decHead_encode hw r
    match v with
    | .uint _ | .nint _ | .bstr _ | .tstr _ => simp [skipItem, hh]
    | .arr xs =>
      simp only [size] at hf
      simp only [skipItem, hh, Cbor.mt, Cbor.arg, Cbor.body]
      exact skipItems_encodeList xs hw.2 f r (by omega)
    | .map kvs =>
      simp only [size] at hf
      simp only [skipItem, hh, Cbor.mt, Cbor.arg, Cbor.body]
      exact skipItems_encodePairs kvs hw.2.1 f r (by omega)
    | .tag t w =>
      simp only [size] at hf
      simp only [skipItem, hh, Cbor.mt, Cbor.arg, Cbor.body]
      exact skipItem_encode w hw.2.1 f r (by omega)
    | .simple n => rcases aiOf_simple hw with h | ⟨h1, h2⟩ <;> simp [skipItem, *] <;> omega
    | .float _ _ => exact hw.elim
  theorem skipItems_encodeList (xs : List Cbor) (hw : WFList xs) (f : Nat) (r : Bytes) (hf : sizeList xs ≤ f) :
      skipItems f xs.length (encodeList xs ++ r) = some r := by
    obtain ⟨f, rfl⟩ := Nat.exists_eq_add_of_le' (Nat.le_trans (sizeList_pos xs) hf)
    match xs with
    | [] => simp [skipItems, encodeList]
    | x :: xs =>
      simp only [sizeList] at hf
      simp only [encodeList, List.length_cons, skipItems, List.append_assoc, skipItem_encode x hw.1 f _ (by omega)]
      exact skipItems_encodeList xs hw.2 f r (by omega)
  theorem skipItems_encodePairs (kvs : List (Cbor × Cbor)) (hw : WFPairs kvs) (f : Nat) (r : Bytes) (hf : sizePairs kvs ≤ f) :
      skipItems f (2 * kvs.length) (flattenPairs (encodePairs kvs) ++ r) = some r := by
    match kvs with
    | [] =>
      obtain ⟨f, rfl⟩ := Nat.exists_eq_add_of_le' (Nat.le_trans (sizePairs_pos []) hf)
      simp [skipItems, encodePairs, flattenPairs]
    | (k, v) :: kvs =>
      -- a pair takes two steps of `skipItems`, so two units of fuel
      obtain ⟨hwk, hwv, hwr⟩ := hw
      simp only [sizePairs] at hf
      have := size_pos k
      have := sizePairs_pos kvs
      obtain ⟨f, rfl⟩ : ∃ g, f = g + 2 := ⟨f - 2, by omega⟩
      simp only [encodePairs, flattenPairs, List.append_assoc, List.length_cons, Nat.mul_add, skipItems,
        skipItem_encode k hwk (f + 1) _ (by omega), skipItem_encode v hwv f _ (by omega)]
      exact skipItems_encodePairs kvs hwr f r (by omega)
end

theorem takeItems_encodeList_all (xs : List Cbor) (hw : WFList xs) (f : Nat) (hf : 3 * (encodeList xs).length ≤ f) :
    takeItems f xs.length (encodeList xs) = some (xs.map encode) := by
  induction xs with
  | nil => rfl
  | cons x xs ih =>
    simp only [encodeList, List.length_append] at hf
    have := size_le x hw.1
    simp only [List.length_cons, takeItems, encodeList, skipItem_encode x hw.1 f _ (by omega), ih hw.2 (by omega)]
    simp

theorem decHead_encode_arr (xs : List Cbor) (hw : WF (.arr xs)) :
    decHead (encode (.arr xs)) = some (4, aiOf xs.length, xs.length, encodeList xs) :=
  decHead_head 4 xs.length _ (by decide) (lt_two64_of_le_maxElems hw.1)

/-- `hl`: `rawArrayElems` takes its fuel from the length of the whole input `bs`, not of what `rawUntag` leaves of it -/
theorem rawArrayElems_of_untag {bs : Bytes} {xs : List Cbor} (hw : WF (.arr xs)) (hu : rawUntag 64 bs = encode (.arr xs))
    (hl : (encode (.arr xs)).length ≤ bs.length) : rawArrayElems bs = some (xs.map encode) := by
  unfold rawArrayElems
  simp only [hu, decHead_encode_arr xs hw]
  refine takeItems_encodeList_all xs hw.2 _ ?_
  simp only [encode, List.length_append] at hl; omega

theorem rawArrayElems_encode_arr (xs : List Cbor) (hw : WF (.arr xs)) :
    rawArrayElems (encode (.arr xs)) = some (xs.map encode) :=
  rawArrayElems_of_untag hw (by simp only [rawUntag, decHead_encode_arr xs hw]) (Nat.le_refl _)

theorem rawArrayElems_tagged (t : Nat) (ht : t < 18446744073709551616) (xs : List Cbor) (hw : WF (.arr xs)) :
    rawArrayElems (encode (.tag t (.arr xs))) = some (xs.map encode) := by
  have hdt : decHead (encode (.tag t (.arr xs))) = some (6, aiOf t, t, encode (.arr xs)) :=
    decHead_head 6 t _ (by decide) ht
  refine rawArrayElems_of_untag hw (by simp only [rawUntag, hdt, decHead_encode_arr xs hw]) ?_
  rw [show encode (.tag t (.arr xs)) = head 6 t ++ encode (.arr xs) from rfl, List.length_append]; omega

/-- an encoded array whose first octet is known, as its readers see it: the item the strict decoder returns and the
    raw members behind that octet -/
theorem encode_arr_views {xs : List Cbor} {b0 : UInt8} (hw : WF (.arr xs)) (hd : depth (.arr xs) ≤ maxNesting)
    (h0 : ∃ rest, encode (.arr xs) = b0 :: rest) :
    ∃ rest, encode (.arr xs) = b0 :: rest ∧ decodeAll (b0 :: rest) = some (.arr xs) ∧
      rawArrayElems (b0 :: rest) = some (xs.map encode) := by
  obtain ⟨rest, hr⟩ := h0
  exact ⟨rest, hr, hr ▸ decodeAll_encode _ hw hd, hr ▸ rawArrayElems_encode_arr xs hw⟩

end Cose.Cbor
