import Cose.Key.Prims
import Cose.Crypto.ConstructionLemmas
/-! What the MAC primitives of `Key/Prims.lean` return, as far as the generic constructions determine it: the AES block
    function's length and the tag lengths (the tables that give the sizes are tied to RFC 9053 in `Props/C11`, `C12`). -/
namespace Cose.Key
open Cose.Crypto Cose.Go

theorem aesE_length {key : Bytes} {E : Bytes → Bytes} (h : aesE key = some E) (b : Bytes) : (E b).length = 16 := by
  obtain ⟨k, -, rfl⟩ := Option.map_eq_some_iff.mp h
  exact aesEncryptBlockWith_length k b

theorem aesmacCreate_length {alg : Int} {key data tag : Bytes} (h : aesmacCreate alg key data = .ok tag)
    (ht : aesmacTagSize alg ≤ 16) : tag.length = aesmacTagSize alg := by
  unfold aesmacCreate at h
  cases hk : aesE key with
  | none => rw [hk] at h; cases h
  | some E =>
    simp only [hk] at h
    split at h <;> cases h
    exact cbcMac_length E (aesE_length hk) _ ht _

/-- `id`, the table's hash number, is a parameter of its own so that a caller who knows the row proves `hh` by `rfl` on a
    literal -/
theorem hmacCreate_length {alg : Int} {key data tag : Bytes} (h : hmacCreate alg key data = some tag)
    {H : Bytes → Bytes} {B hl id : Nat} (hid : nth (swRow Cose.Gen.Tables.sw_key_Alg_HashFunc alg) 0 = id)
    (hh : hashById id = some (H, B)) (hH : ∀ m, (H m).length = hl) (ht : hmacTagSize alg ≤ hl) :
    tag.length = hmacTagSize alg := by
  unfold hmacCreate at h
  rw [hid, hh] at h
  cases h
  rw [List.length_take, hmac_length H hl hH, Nat.min_eq_left ht]

end Cose.Key
