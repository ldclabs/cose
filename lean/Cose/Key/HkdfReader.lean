import Cose.Key.Prims
import Cose.Crypto.ConstructionLemmas
/-!
# The Go `aesHKDF` reader, over every sequence of reads

`AesHkdf.read` mirrors `(*aesHKDF).Read` (counter in a `uint8`, leftover of the last block kept in `output`).
Here: an invariant that ties the reader's state after any history of reads to the RFC 5869 block sequence
`hkdfBlocks`, and from it — for *every* chunking, from every state the reader can be in — a sequence of reads
within the 255 blocks hands out the next bytes of the one stream, cut as asked, and any other is refused (`reads_eq`);
the one-shot HKDF-AES output of any length is a prefix of that stream (`hkdfAesSpec_eq_take`).
-/
namespace Cose.Key
open Cose.Crypto

variable (E : Bytes → Bytes) (info : Bytes)

/-- T(1) ‖ … ‖ T(n) and T(n) for HKDF-AES -/
abbrev hb (n : Nat) : Bytes × Bytes := hkdfBlocks (aesPrf E) [] info n

theorem aesPrf_len (hE : ∀ b, (E b).length = 16) : ∀ k m, (aesPrf E k m).length = 16 :=
  fun _ m => cbcMacFull_length E hE m

theorem hb_length (hE : ∀ b, (E b).length = 16) (n : Nat) : (hb E info n).1.length = n * 16 :=
  hkdfBlocks_length (aesPrf E) 16 (aesPrf_len E hE) [] info n

abbrev full : Bytes := (hb E info 255).1

theorem hb_eq_take (hE : ∀ b, (E b).length = 16) {n : Nat} (h : n ≤ 255) :
    (hb E info n).1 = (full E info).take (n * 16) :=
  hkdfBlocks_take (aesPrf E) 16 (aesPrf_len E hE) [] info h

theorem full_length (hE : ∀ b, (E b).length = 16) : (full E info).length = 4080 :=
  hb_length E info hE 255

theorem hkdfAesSpec_eq_take (hE : ∀ b, (E b).length = 16) {l : Nat} (h : l ≤ 4080) :
    hkdfAesSpec E info l = some ((full E info).take l) :=
  hkdfExpand_eq_take (aesPrf E) 16 (by decide) (aesPrf_len E hE) [] info h

theorem hb_succ (n : Nat) : (hb E info (n + 1)).1 = (hb E info n).1 ++ (hb E info (n + 1)).2 := rfl

theorem hb_succ_snd (n : Nat) :
    (hb E info (n + 1)).2 = cbcMacFull E ((hb E info n).2 ++ info ++ [UInt8.ofNat (n + 1)]) := rfl

theorem hb_snd_eq_drop (hE : ∀ b, (E b).length = 16) (m : Nat) (h : m + 1 ≤ 255) :
    (hb E info (m + 1)).2 = ((full E info).take ((m + 1) * 16)).drop (m * 16) := by
  rw [← hb_eq_take E info hE h, hb_succ]
  exact (List.drop_left' (hb_length E info hE m)).symm

theorem u8_succ (g : Nat) : UInt8.ofNat (g + 1) + 1 = UInt8.ofNat (g + 1 + 1) :=
  (UInt8.ofNat_add (g + 1) 1).symm

theorem aesHkdfGen_append : ∀ (k g : Nat),
    (hb E info g).1 ++ (aesHkdfGen E info k (hb E info g).2 (UInt8.ofNat (g + 1))).1 = (hb E info (g + k)).1 ∧
    (aesHkdfGen E info k (hb E info g).2 (UInt8.ofNat (g + 1))).2 = ((hb E info (g + k)).2, UInt8.ofNat (g + k + 1))
  | 0, g => ⟨List.append_nil _, rfl⟩
  | k + 1, g => by
    obtain ⟨h1, h2⟩ := aesHkdfGen_append k (g + 1)
    rw [show g + 1 + k = g + (k + 1) by omega] at h1 h2
    simp only [aesHkdfGen]
    rw [← hb_succ_snd E info g, u8_succ]
    exact ⟨by rw [← List.append_assoc, ← hb_succ, h1], h2⟩

theorem aesHkdfGen_eq (hE : ∀ b, (E b).length = 16) (k g : Nat) :
    aesHkdfGen E info k (hb E info g).2 (UInt8.ofNat (g + 1)) =
      ((hb E info (g + k)).1.drop (g * 16), (hb E info (g + k)).2, UInt8.ofNat (g + k + 1)) := by
  obtain ⟨h1, h2⟩ := aesHkdfGen_append E info k g
  rw [← h1, List.drop_left' (hb_length E info hE g)]
  exact Prod.ext rfl h2

/-- the blocks left, as `Read` computes them in `uint8` from the counter `g + 1`; after the 255th block the counter has
    wrapped to 0 and the expression gives 0 -/
theorem u8_remaining : ∀ g, g < 256 → ((255 : UInt8) - UInt8.ofNat (g + 1) + 1).toNat = 255 - g := by
  decide +kernel

theorem drop_take_append_take {α} {l : List α} {c a r G : Nat} (hc : c ≤ a) (hG : a + r ≤ G) :
    (l.take a).drop c ++ ((l.take G).drop a).take r = (l.drop c).take (a - c + r) := by
  rw [List.take_add, List.drop_drop, List.drop_take, List.drop_take, List.take_take, Nat.min_eq_left (Nat.le_sub_of_add_le' hG),
    Nat.add_sub_cancel' hc]

theorem blocks_for (rest : Nat) (h : 1 ≤ rest) :
    ∃ m, (rest + 15) / 16 = m + 1 ∧ m * 16 < rest ∧ rest ≤ (m + 1) * 16 :=
  ⟨(rest + 15) / 16 - 1, by omega⟩

/-- reader invariant: `g` blocks generated, `c` bytes handed out -/
structure RInv (s : AesHkdf) (g c : Nat) : Prop where
  hinfo : s.info = info
  hprev : s.prev = (hb E info g).2
  hctr : s.counter = UInt8.ofNat (g + 1)
  hout : s.output = ((full E info).take (g * 16)).drop c
  hc : c ≤ g * 16
  hg : g ≤ 255

theorem rinv_init : RInv E info (AesHkdf.init info) 0 0 :=
  ⟨rfl, rfl, rfl, rfl, Nat.zero_le _, Nat.zero_le _⟩

variable {E info}

theorem rinv_out_length (hE : ∀ b, (E b).length = 16) {s : AesHkdf} {g c : Nat} (h : RInv E info s g c) :
    s.output.length = g * 16 - c := by
  rw [h.hout, List.length_drop, List.length_take, full_length E info hE, Nat.min_eq_left (Nat.mul_le_mul_right 16 h.hg)]

theorem read_refused (hE : ∀ b, (E b).length = 16) {s : AesHkdf} {g c : Nat} (h : RInv E info s g c) (n : Nat)
    (hn : ¬ c + n ≤ 4080) : s.read E n = none := by
  unfold AesHkdf.read
  simp only [h.hctr, u8_remaining g (Nat.lt_succ_of_le h.hg), rinv_out_length hE h]
  have := h.hc; have := h.hg
  rw [if_pos (by omega)]

theorem read_ok (hE : ∀ b, (E b).length = 16) {s : AesHkdf} {g c : Nat} (h : RInv E info s g c) (n : Nat)
    (hn : c + n ≤ 4080) :
    ∃ s' g', s.read E n = some (((full E info).drop c).take n, s') ∧ RInv E info s' g' (c + n) := by
  have hc := h.hc; have hg := h.hg
  unfold AesHkdf.read
  simp only [h.hctr, u8_remaining g (Nat.lt_succ_of_le hg), rinv_out_length hE h]
  rw [if_neg (by omega)]
  by_cases hsmall : n ≤ g * 16 - c
  · rw [if_pos hsmall]
    have hcn : c + n ≤ g * 16 := Nat.add_le_of_le_sub' hc hsmall
    refine ⟨{ s with output := s.output.drop n }, g, ?_, ?_⟩
    · rw [h.hout, List.drop_take, List.take_take, Nat.min_eq_left hsmall, h.hctr]
    · exact ⟨h.hinfo, h.hprev, h.hctr, by simp only [h.hout, List.drop_drop], hcn, hg⟩
  · rw [if_neg hsmall]
    -- `rest` bytes are missing from the buffer, so the read ends at `g * 16 + rest`; `m + 1` blocks are the fewest
    -- that hold them
    obtain ⟨rest, rfl⟩ := Nat.exists_eq_add_of_le (Nat.le_of_not_le hsmall)
    rw [← Nat.add_assoc, Nat.add_sub_cancel' hc] at hn ⊢
    obtain ⟨m, hnb, hlo, hhi⟩ := blocks_for rest (by omega)
    have hG : g * 16 + rest ≤ (g + (m + 1)) * 16 := by rw [Nat.add_mul]; exact Nat.add_le_add_left hhi _
    have hg' : g + (m + 1) ≤ 255 := by omega
    rw [Nat.add_sub_cancel_left, hnb, h.hinfo, h.hprev, aesHkdfGen_eq E info hE (m + 1) g]
    -- the `let (stream, last, c')` of `read` now binds a literal triple; of the invariant, `info`, `prev` and the
    -- counter hold by `rfl`, the buffer is the second bullet
    simp only []
    refine ⟨_, g + (m + 1), congrArg some (Prod.ext ?_ rfl), rfl, rfl, rfl, ?_, hG, hg'⟩
    · show s.output ++ _ = _
      rw [h.hout, hb_eq_take E info hE hg']
      exact drop_take_append_take hc hG
    · show List.drop _ (hb E info (g + (m + 1))).2 = _
      rw [← Nat.add_assoc, hb_snd_eq_drop E info hE (g + m) hg', List.drop_drop, Nat.add_sub_cancel]
      rw [show (g + m) * 16 + (rest - 16 * m) = g * 16 + rest by rw [Nat.add_mul]; omega]

def cut : List Nat → Bytes → List Bytes
  | [], _ => []
  | n :: ns, b => b.take n :: cut ns (b.drop n)

theorem cut_flatten : ∀ (ns : List Nat) (b : Bytes), (cut ns b).flatten = b.take ns.sum
  | [], _ => List.take_zero.symm
  | n :: ns, b => by rw [cut, List.flatten_cons, cut_flatten ns, List.sum_cons, List.take_add]

theorem cut_lengths : ∀ (ns : List Nat) (b : Bytes), ns.sum ≤ b.length → (cut ns b).map List.length = ns
  | [], _, _ => rfl
  | n :: ns, b, h => by
    rw [List.sum_cons] at h
    rw [cut, List.map_cons, List.length_take, Nat.min_eq_left (Nat.le_trans (Nat.le_add_right _ _) h),
      cut_lengths ns _ (by rw [List.length_drop]; omega)]

theorem reads_eq (hE : ∀ b, (E b).length = 16) : ∀ (ns : List Nat) {s : AesHkdf} {g c : Nat}, RInv E info s g c →
    AesHkdf.reads E s ns = if c + ns.sum ≤ 4080 then some (cut ns ((full E info).drop c)) else none
  | [], s, g, c, h => (if_pos (Nat.le_trans h.hc (Nat.mul_le_mul_right 16 h.hg))).symm
  | n :: ns, s, g, c, h => by
    rw [AesHkdf.reads, List.sum_cons, ← Nat.add_assoc]
    by_cases hn : c + n ≤ 4080
    · obtain ⟨s', g', hread, hinv⟩ := read_ok hE h n hn
      rw [hread]
      simp only
      rw [reads_eq hE ns hinv, cut, List.drop_drop]
      split <;> rfl
    · rw [read_refused hE h n hn, if_neg fun h' => hn (Nat.le_trans (Nat.le_add_right _ _) h')]

end Cose.Key
